/-
Props/C08Assign — Rock Ridge fidelity of one record, for every name and every link target.
`rrNew` is the model of `RockRidge.new` (tied to rockridge.py by the S-fn grid of harness/props/c08.py).  Whatever the
version, the room left in the directory record, the flags (first record, CL/RE/PL) and whether a continuation entry is
needed: the NM entries read in order give back the name, the SL entries give back the link target, and a record
without a link carries no SL component.  The first layout pass (no continuation entry) puts nothing into the
continuation area (`assign_noCE`), so what is recorded is all there is.  Every step of `_assign_entries` (model `assign`)
adds either a fixed-size entry, the NM pieces (`addName`) or the SL records (`newSymlink`); `recorded` is composed along them.
-/
import Pycdlib.Props.C08
namespace Pycdlib.Susp

/-- what a reader finds recorded: the name the NM entries spell and the components of the SL entries -/
def recorded (a : Acc) : Bytes × List Comp := (nmName (a.dr ++ a.ce), allComps (a.dr ++ a.ce))

theorem put_fixed_recorded {hasCE : Bool} {a a' : Acc} {sig : String} {n : Nat}
    (h : put hasCE a (.fixed sig n) = some a') : recorded a' = recorded a := by
  rcases put_some h with ⟨_, rfl⟩ | ⟨_, rfl⟩ <;> simp [recorded, nmName, allComps]

theorem optPut_fixed_recorded {c hasCE : Bool} {a a' : Acc} {sig : String} {n : Nat}
    (h : optPut c hasCE a (.fixed sig n) = some a') : recorded a' = recorded a := by
  rcases optPut_some h with rfl | h
  · rfl
  · exact put_fixed_recorded h

theorem allComps_markNm (ps : List Bytes) : allComps (markNm ps) = [] := by
  fun_induction markNm ps with
  | case1 | case2 => rfl
  | case3 p ps _ ih => exact ih

/-- the NM step of `assign` -/
theorem nameStep_recorded {hasCE : Bool} {a a' : Acc} {name : Bytes}
    (h : (if name.isEmpty then some a else addName hasCE a name) = some a') (h0 : (recorded a).1 = []) :
    recorded a' = (name, (recorded a).2) := by
  split at h
  · next hn => cases h; rw [List.isEmpty_iff.mp hn, ← h0]
  · have ha : nmName a.dr = [] ∧ nmName a.ce = [] := by simpa [recorded, nmName_append] using h0
    obtain ⟨ps, d, e, -, hde, -, hdr, hce⟩ := addName_some h
    have hsl : allComps d = [] ∧ allComps e = [] := by simpa [← hde, allComps_append] using allComps_markNm ps
    simp only [recorded, addName_concat hasCE a a' name h ha]
    simp only [hdr, hce, allComps_append, hsl.1, hsl.2, List.append_nil]

theorem newSymlink_recorded {hasCE : Bool} {a a' : Acc} {t : Bytes} (h : newSymlink hasCE a t = some a')
    (ht : t ≠ []) (h0 : (recorded a).2 = []) : (recorded a').1 = (recorded a).1 ∧ slTarget (recorded a').2 = t := by
  have ha : allComps a.dr = [] ∧ allComps a.ce = [] := by simpa [recorded, allComps_append] using h0
  obtain ⟨dr, ce, pre, cs, hdr, hce, hch, hpre, hre, -⟩ := newSymlink_spec h
  have hnm : nmName dr = [] ∧ nmName ce = [] := by
    have : nmName (dr ++ ce) = [] := List.flatMap_eq_nil_iff.mpr fun e he => by
      rcases List.mem_append.mp (hch ▸ he) with he | he
      · obtain ⟨cs', rfl⟩ := hpre e he; rfl
      · rw [List.mem_singleton.mp he]
    simpa [nmName_append] using this
  constructor
  · simp only [recorded, hdr, hce, nmName_append, hnm.1, hnm.2, List.append_nil]
  · simp only [recorded, hdr, hce, allComps_append, ha.1, ha.2, List.nil_append]
    rw [← allComps_append]
    exact hre ht

/-- the SL step of `assign` -/
theorem linkStep_recorded {hasCE : Bool} {a a' : Acc} {target : Option Bytes}
    (h : (match target with
      | some t => if t.isEmpty then some a else newSymlink hasCE a t
      | none => some a) = some a') (h0 : (recorded a).2 = []) :
    (recorded a').1 = (recorded a).1 ∧ (∀ t, target = some t → t ≠ [] → slTarget (recorded a').2 = t) ∧
      ((target = none ∨ target = some []) → (recorded a').2 = []) := by
  split at h
  · next t =>
    split at h
    · next hte =>
      cases h
      cases List.isEmpty_iff.mp hte
      exact ⟨rfl, fun t ht hne => absurd (Option.some.inj ht).symm hne, fun _ => h0⟩
    · next hte =>
      have hne : t ≠ [] := fun h => hte (by rw [h]; rfl)
      obtain ⟨hnm, hsl⟩ := newSymlink_recorded h hne h0
      refine ⟨hnm, fun t' ht' _ => Option.some.inj ht' ▸ hsl, fun hor => ?_⟩
      rcases hor with h | h
      · cases h
      · exact absurd (Option.some.inj h) hne
  · cases h
    exact ⟨rfl, nofun, fun _ => h0⟩

/-- what `_assign_entries` records: the NM pieces give the name, the SL records give the link target -/
theorem assign_records {hasCE first : Bool} {ver : Ver} {name : Bytes} {target : Option Bytes} {cl re pl : Bool}
    {cur : Nat} {a : Acc} (h : assign hasCE first ver name target cl re pl cur = some a) :
    nmName (a.dr ++ a.ce) = name ∧
    (∀ t, target = some t → t ≠ [] → slTarget (allComps (a.dr ++ a.ce)) = t) ∧
    ((target = none ∨ target = some []) → allComps (a.dr ++ a.ce) = []) := by
  unfold assign at h
  simp only [Option.bind_eq_some_iff] at h
  obtain ⟨a1, h1, a2, h2, a3, h3, a4, h4, a5, h5, a6, h6, a7, h7, a8, h8, a9, h9, h10⟩ := h
  -- SP, RR; NM, PX; SL; TF, CL, RE, PL, ER
  have r2 : recorded a2 = ([], []) := by rw [optPut_fixed_recorded h2, optPut_fixed_recorded h1]; rfl
  have r4 : recorded a4 = (name, []) := by
    rw [put_fixed_recorded h4, nameStep_recorded h3 (by rw [r2]), r2]
  obtain ⟨hnm, hsl⟩ := linkStep_recorded h5 (by rw [r4])
  have r : recorded a = recorded a5 := by
    rw [optPut_fixed_recorded h10, optPut_fixed_recorded h9, optPut_fixed_recorded h8, optPut_fixed_recorded h7,
      put_fixed_recorded h6]
  rw [← r] at hnm hsl
  exact ⟨hnm.trans (congrArg Prod.fst r4), hsl⟩

theorem put_noCE {a a' : Acc} {e : Ent} (h : put false a e = some a') : a'.ce = a.ce := by
  rcases put_some h with ⟨_, rfl⟩ | ⟨hce, _⟩
  · rfl
  · cases hce

theorem optPut_noCE {c : Bool} {a a' : Acc} {e : Ent} (h : optPut c false a e = some a') : a'.ce = a.ce := by
  rcases optPut_some h with rfl | h
  · rfl
  · exact put_noCE h

theorem addName_noCE {a a' : Acc} {name : Bytes} (h : addName false a name = some a') : a'.ce = a.ce := by
  obtain ⟨_, _, e, -, -, he, -, hce⟩ := addName_some h
  rw [hce, he rfl, List.append_nil]

/-- the first layout pass (no continuation entry) puts nothing into the continuation area -/
theorem assign_noCE (first : Bool) (ver : Ver) (name : Bytes) (target : Option Bytes) (cl re pl : Bool) (cur : Nat)
    (a : Acc) (h : assign false first ver name target cl re pl cur = some a) : a.ce = [] := by
  unfold assign at h
  simp only [Option.bind_eq_some_iff] at h
  obtain ⟨a1, h1, a2, h2, a3, h3, a4, h4, a5, h5, a6, h6, a7, h7, a8, h8, a9, h9, h10⟩ := h
  have e3 : a3.ce = a2.ce := by
    split at h3
    · cases h3; rfl
    · exact addName_noCE h3
  have e5 : a5.ce = a4.ce := by
    split at h5
    · split at h5
      · cases h5; rfl
      · exact newSymlink_noCE _ _ _ h5
    · cases h5; rfl
  rw [optPut_noCE h10, optPut_noCE h9, optPut_noCE h8, optPut_noCE h7, put_noCE h6, e5, put_noCE h4, e3,
    optPut_noCE h2, optPut_noCE h1]

/-- **C08 (one record, all names and targets)** -/
theorem rrNew_records (first : Bool) (ver : Ver) (name : Bytes) (target : Option Bytes) (cl re pl : Bool) (cur : Nat)
    (r : RRLayout) (h : rrNew first ver name target cl re pl cur = some r) :
    nmName (r.dr ++ r.ce) = name ∧
    (∀ t, target = some t → t ≠ [] → slTarget (allComps (r.dr ++ r.ce)) = t) ∧
    ((target = none ∨ target = some []) → allComps (r.dr ++ r.ce) = []) := by
  unfold rrNew at h
  split at h
  · next a h1 =>
    cases h
    have := assign_records h1
    rwa [assign_noCE _ _ _ _ _ _ _ _ _ h1] at this
  · split at h
    · next a h2 =>
      split at h
      · cases h
      · cases h; exact assign_records h2
    · cases h

/-- a 300-byte name and a link whose 400-byte component is cut once (248 + 152 bytes), with continuation entry -/
example : (rrNew false .v112 (List.replicate 300 97) (some (List.replicate 400 120 ++ [47, 46, 46])) false false false 48).isSome = true := by
  decide +kernel

end Pycdlib.Susp

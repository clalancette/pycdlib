/-
Props/C07Store — the content store of the specification along whole histories.
Full statement (C07): for EVERY accepted history, a content is stored exactly as long as some name (or boot entry) refers
to it, every name's content is stored, and content ids are unique.
Proved (`store_inv_partial`): for every accepted history that contains no `reopen`.  Not proved: across `reopen`, which
renumbers zero-length contents (its effect on names is `reopen_keeps_names`, Props/C02); decided there per history by the
reader/specification comparison over generations.
-/
import Pycdlib.Proofs.SpecBlobs
import Pycdlib.Props.C01Tree
namespace Pycdlib.Spec

theorem blobInv_init (rr : Bool) : BlobInv { rr := rr } :=
  ⟨fun _ he => (nomatch he), fun _ hbl => (nomatch hbl), fun _ hbl => (nomatch hbl), List.nodup_nil⟩

/-- **C07 (content store, histories without reopen)** -/
theorem store_inv_partial (rr : Bool) (ops : List Op) (s' : State) (hno : Op.reopen ∉ ops)
    (h : run { rr := rr } ops = some s') : BlobInv s' :=
  (run_induction (P := fun s => TreeInv s ∧ BlobInv s) h ⟨treeInv_init rr, blobInv_init rr⟩
    fun _ hop _ _ hi h₁ => ⟨step_tree_inv hi.1 h₁, step_blob_inv (fun heq => hno (heq ▸ hop)) hi.1 hi.2 h₁⟩).2

theorem step_bootBlobs {s s' : State} {op : Op} (h : step s op = some s') : s'.bootBlobs = s.bootBlobs := by
  cases step_some h <;> rfl

/-- in the form C07 states it: (no boot references in these histories) a content is stored iff some name refers to it -/
theorem stored_iff_named_partial (rr : Bool) (ops : List Op) (s' : State) (hno : Op.reopen ∉ ops)
    (h : run { rr := rr } ops = some s') (b : Nat) :
    (∃ bl ∈ s'.blobs, bl.id = b) ↔ ∃ e ∈ s'.entries, e.node = Node.file b := by
  obtain ⟨h1, h2, -⟩ := store_inv_partial rr ops s' hno h
  have hboot : s'.bootBlobs = [] :=
    run_induction (P := fun s => s.bootBlobs = []) h rfl fun _ _ _ _ hs h₁ => (step_bootBlobs h₁).trans hs
  constructor
  · rintro ⟨bl, hbl, rfl⟩
    have := refs_pos_iff.mp (h2 bl hbl)
    rw [hboot] at this
    exact this.resolve_right List.not_mem_nil
  · rintro ⟨e, he, hn⟩
    exact h1 e he b hn

end Pycdlib.Spec

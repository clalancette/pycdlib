/-
Props/C13 — namespace rules (ISO9660 identifiers): the acceptance predicates of pycdlib are exactly the
declarative naming rules, and a refusal is always the library's invalid-input error.

`LegalFile` / `LegalDir` are written from the documented rules, not from the code.  Separator 2 and the version are
optional: `FOO` and `FOO;` are legal.
-/
import Pycdlib.Proofs.Names
import Pycdlib.Generated.Names
namespace Pycdlib

/-- A file identifier is `name [. ext] [; ver]`. -/
def LegalFile (lvl : Nat) (n : Bytes) : Prop :=
  ∃ (name ext ver : Bytes) (hasDot hasSemi : Bool),
    n = name ++ (if hasDot then cDot :: ext else []) ++ (if hasSemi then cSemi :: ver else []) ∧
    (hasDot = false → ext = [] ∧ cDot ∉ name) ∧ (hasSemi = false → ver = []) ∧
    cDot ∉ ext ∧ cSemi ∉ ext ∧ cSemi ∉ name ∧ cSemi ∉ ver ∧
    (name ≠ [] ∨ ext ≠ []) ∧
    (ver ≠ [] → (∀ b ∈ ver, isDigit b = true) ∧ 1 ≤ decVal ver ∧ decVal ver ≤ 32767) ∧
    (lvl = 1 → name.length ≤ 8 ∧ ext.length ≤ 3) ∧
    (lvl < 4 → (∀ b ∈ name, isD1 b = true) ∧ (∀ b ∈ ext, isD1 b = true))

def LegalDir (lvl : Nat) (n : Bytes) : Prop :=
  n ≠ [] ∧ (lvl = 1 → n.length ≤ 8) ∧ (lvl = 2 ∨ lvl = 3 → n.length ≤ 207) ∧
  (lvl < 4 → ∀ b ∈ n, isD1 b = true)

/-- tie to the source: the model's d-character test is the set in pycdlib.py (regenerated every run). -/
theorem isD1_matches_source : ∀ n : Fin 256, isD1 (UInt8.ofNat n.val) = Generated.allowedD1.contains n.val := by
  decide +kernel

theorem versionOk_iff (v : Bytes) :
    versionOk v = true ↔ (v ≠ [] → (∀ b ∈ v, isDigit b = true) ∧ 1 ≤ decVal v ∧ decVal v ≤ 32767) := by
  cases v <;> simp [versionOk, and_assoc]

/-- Both checks are a chain of `if test then refuse else ...` ending in acceptance. -/
theorem guard_ok_iff {c : Prop} [Decidable c] {e : Err} {x : Except Err Unit} :
    (if c then .error e else x) = .ok () ↔ ¬ c ∧ x = .ok () := by
  split <;> simp [*]

theorem guard_refusal {c : Prop} [Decidable c] {x : Except Err Unit} (h : x = .ok () ∨ x = .error .invalidInput) :
    (if c then .error .invalidInput else x) = .ok () ∨
      (if c then .error .invalidInput else x) = .error .invalidInput := by
  split
  · exact .inr rfl
  · exact h

theorem checkIsoFilename_ok_iff {lvl : Nat} {n name ext ver : Bytes} (h : splitIsoFilename n = (name, ext, ver)) :
    checkIsoFilename lvl n = .ok () ↔
      (ver ≠ [] → (∀ b ∈ ver, isDigit b = true) ∧ 1 ≤ decVal ver ∧ decVal ver ≤ 32767) ∧
      (name ≠ [] ∨ ext ≠ []) ∧ (cSemi ∉ name ∧ cSemi ∉ ext) ∧
      (lvl = 1 → name.length ≤ 8 ∧ ext.length ≤ 3) ∧
      (lvl < 4 → (∀ b ∈ name, isD1 b = true) ∧ (∀ b ∈ ext, isD1 b = true)) := by
  simp only [checkIsoFilename, h, guard_ok_iff, ← versionOk_iff]
  simp [allD1, Decidable.imp_iff_not_or]

/-- **C13 (file identifiers)**: pycdlib accepts a file identifier iff it is legal, for every byte string. -/
theorem check_file_iff (lvl : Nat) (n : Bytes) :
    checkIsoFilename lvl n = .ok () ↔ LegalFile lvl n := by
  constructor
  · intro h
    obtain ⟨hasDot, hasSemi, hn, hd, hde, hs, hsv⟩ := (splitIso_eq_iff n _ _ _).mp rfl
    obtain ⟨hver, hne, ⟨hsn, hse⟩, hl1, hd1⟩ := (checkIsoFilename_ok_iff rfl).mp h
    exact ⟨_, _, _, hasDot, hasSemi, hn, hd, fun h => (hs h).1, hde, hse, hsn, hsv, hne, hver, hl1, hd1⟩
  · rintro ⟨name, ext, ver, hasDot, hasSemi, hn, hd, hs, hde, hse, hsn, hsv, hne, hver, hl1, hd1⟩
    have hsplit := (splitIso_eq_iff n name ext ver).mpr
      ⟨hasDot, hasSemi, hn, hd, hde, fun h => ⟨hs h, hsn, hse⟩, hsv⟩
    exact (checkIsoFilename_ok_iff hsplit).mpr ⟨hver, hne, ⟨hsn, hse⟩, hl1, hd1⟩

/-- **C13 (directory identifiers)**. -/
theorem check_dir_iff (lvl : Nat) (n : Bytes) :
    checkIsoDirectory lvl n = .ok () ↔ LegalDir lvl n := by
  simp only [checkIsoDirectory, guard_ok_iff, LegalDir]
  simp [allD1]

/-- **C13 (refusal class)**: the identifier checks fail only with the library's invalid-input error —
never a `ValueError` or any other undocumented exception, for any byte string. -/
theorem check_refusal_documented (lvl : Nat) (n : Bytes) :
    (checkIsoFilename lvl n = .ok () ∨ checkIsoFilename lvl n = .error .invalidInput) ∧
    (checkIsoDirectory lvl n = .ok () ∨ checkIsoDirectory lvl n = .error .invalidInput) :=
  -- one `guard_refusal` for each guard: five in `checkIsoFilename`, four in `checkIsoDirectory`
  ⟨guard_refusal <| guard_refusal <| guard_refusal <| guard_refusal <| guard_refusal <| .inl rfl,
   guard_refusal <| guard_refusal <| guard_refusal <| guard_refusal <| .inl rfl⟩

/-- `FOO.TXT;1` is accepted and legal at level 1; `FOO;+5` is not. -/
example : checkIsoFilename 1 [70, 79, 79, 46, 84, 88, 84, 59, 49] = .ok () := by rfl
example : LegalFile 1 [70, 79, 79, 46, 84, 88, 84, 59, 49] :=
  (check_file_iff _ _).mp (by rfl)
example : ¬ LegalFile 1 [70, 79, 79, 59, 43, 53] := fun h => by
  have h1 := (check_file_iff _ _).mpr h
  have h2 : checkIsoFilename 1 [70, 79, 79, 59, 43, 53] = .error .invalidInput := by rfl
  rw [h2] at h1; cases h1
example : LegalDir 3 [65, 66] := (check_dir_iff _ _).mp (by rfl)

end Pycdlib

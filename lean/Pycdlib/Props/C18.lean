/-
Props/C18 — derived names are always legal.
`upper` (Python `str.upper`, applied per code point) is a parameter: every theorem holds for *every*
function `upper : Char → List Char` that never returns the empty string; the identity theorems additionally
assume it fixes the d-characters.  Both assumptions are checked by the harness for each string it sends.
-/
import Pycdlib.Proofs.Mangle
import Pycdlib.Props.C13
namespace Pycdlib

/-- every character the helpers emit at levels 1-3 is a d-character, whatever the input and case mapping -/
theorem mangle_chars (upper : Upper) (s : List Char) (lvl : Nat) (d : Bool) (h : lvl ≠ 4) :
    (∀ c ∈ truncateBasename upper s lvl d, isD1Char c = true) ∧
    (truncateBasename upper s lvl d).length ≤ maxLen lvl d :=
  ⟨truncate_chars upper s lvl d h, truncate_length upper s lvl d h⟩

theorem dir_ident_legal (lvl : Nat) (s : List Char) (hc : ∀ c ∈ s, isD1Char c = true) (hne : s ≠ [])
    (hlen : s.length ≤ maxLen lvl true) : checkIsoDirectory lvl (asciiBytes s) = .ok () := by
  have := maxLen_bounds lvl true
  refine (check_dir_iff _ _).mpr ⟨mt asciiBytes_eq_nil.mp hne, ?_, ?_, fun _ => asciiBytes_d1 s hc⟩ <;>
    rw [asciiBytes_length]
  · rintro rfl; exact hlen
  · omega

/-- **C18 (directories)**: the derived directory identifier is accepted by the library at that level. -/
theorem mangle_dir_legal (upper : Upper) (hup : ∀ c, upper c ≠ []) (s : List Char) (hs : s ≠ [])
    (lvl : Nat) (hl : 1 ≤ lvl ∧ lvl ≤ 3) :
    checkIsoDirectory lvl (asciiBytes (mangleDir upper s lvl)) = .ok () :=
  have h4 : lvl ≠ 4 := by omega
  dir_ident_legal lvl _ (truncate_chars upper s lvl true h4) (truncate_ne_nil upper hup s hs lvl true)
    (truncate_length upper s lvl true h4)

theorem file_ident_legal (lvl : Nat) (b e : List Char)
    (hb : ∀ c ∈ b, isD1Char c = true) (he : ∀ c ∈ e, isD1Char c = true)
    (hbl : b.length ≤ maxLen lvl false) (hel : e.length ≤ 3) (hne : b ≠ [] ∨ e ≠ []) :
    checkIsoFilename lvl (asciiBytes (b ++ '.' :: (e ++ [';', '1']))) = .ok () := by
  have hbb := asciiBytes_d1 b hb
  have heb := asciiBytes_d1 e he
  -- name `b`, extension `e`, version `1`; a d-character is neither `.` nor `;`
  refine (check_file_iff _ _).mpr ⟨asciiBytes b, asciiBytes e, [49], true, true, ?_, by simp, by simp,
    not_mem_of_d1 heb rfl, not_mem_of_d1 heb rfl, not_mem_of_d1 hbb rfl, by decide, ?_, fun _ => by decide, ?_,
    fun _ => ⟨hbb, heb⟩⟩
  · simp [asciiBytes, cDot, cSemi]
  · simpa only [ne_eq, asciiBytes_eq_nil] using hne
  · rintro rfl
    simpa only [asciiBytes_length] using ⟨hbl, hel⟩

/-- **C18 (files)**: the identifier `'.'.join(mangle_file_for_iso9660(s, lvl))` that the facades and
pycdlib-genisoimage build is accepted by the library at that level, for every non-empty source name. -/
theorem mangle_file_legal (upper : Upper) (hup : ∀ c, upper c ≠ []) (s : List Char) (hs : s ≠ [])
    (lvl : Nat) (hl : 1 ≤ lvl ∧ lvl ≤ 3) :
    checkIsoFilename lvl (asciiBytes (mangledFileIdent upper s lvl)) = .ok () := by
  obtain ⟨b, e, hm, hb, he, hbl, hel, hne⟩ := mangleFile_shape upper s lvl (by omega)
  unfold mangledFileIdent
  rw [hm]
  exact file_ident_legal lvl b e hb he hbl hel (hne hup hs)

/-- **C18 (identity, directories)**: an already legal directory name is returned unchanged. -/
theorem mangle_dir_identity (upper : Upper) (hu : ∀ c, isD1Char c = true → upper c = [c])
    (s : List Char) (lvl : Nat) (hd : ∀ c ∈ s, isD1Char c = true) (hl : s.length ≤ maxLen lvl true) :
    mangleDir upper s lvl = s :=
  truncate_id upper s lvl true hd hu hl

/-- **C18 (identity, files)** — `_partial`: proved for `NAME.EXT` with a 1..3 character extension and for
`NAME` without a dot.  Not true of the code for legal names with an empty extension (`NAME.`) or, at
levels 2-3, an extension longer than 3: those are folded into the base name (utils.py:399-404) —
recorded as a known finding, see `mangle_identity_counterexample`. -/
theorem mangle_file_identity_partial (upper : Upper) (hu : ∀ c, isD1Char c = true → upper c = [c])
    (name ext : List Char) (lvl : Nat)
    (hn : ∀ c ∈ name, isD1Char c = true) (he : ∀ c ∈ ext, isD1Char c = true)
    (hnl : name.length ≤ maxLen lvl false) (hel : 1 ≤ ext.length ∧ ext.length ≤ 3) (h4 : lvl ≠ 4) :
    mangleFile upper (name ++ '.' :: ext) lvl = (name, ext ++ [';', '1']) ∧
    mangleFile upper name lvl = (name, [';', '1']) := by
  have hdot (l : List Char) (hl : ∀ c ∈ l, isD1Char c = true) : '.' ∉ l :=
    fun hm => absurd (hl _ hm) (by decide)
  have hname := truncate_id upper name lvl false hn hu hnl
  constructor
  · have hup : upperStr upper ext = ext := upperStr_id upper ext (fun c hc => hu c (he c hc))
    have hall : (ext.all isD1Char) = true := List.all_eq_true.mpr he
    have c1 : ¬ ext.length = 0 := by omega
    have c2 : ¬ ext.length > 3 := by omega
    simp only [mangleFile, splitLast_append_cons (hdot ext he), h4, if_false, hup, hall, c1, c2, decide_false,
      Bool.not_true, Bool.or_false, Bool.false_eq_true, hname]
  · simp only [mangleFile, (splitLast_eq_none '.' name).mpr (hdot name hn), h4, if_false, hname]

/-- the identity clause fails for a legal name with an empty extension (Lean witness of the known finding) -/
theorem mangle_identity_counterexample :
    checkIsoFilename 1 (asciiBytes ['A', '.']) = .ok () ∧
    mangleFile (fun c => [c]) ['A', '.'] 1 = (['A', '_'], [';', '1']) := by
  constructor <;> rfl

/-- 'ß' upper-cases to two characters; the result still fits level 1. -/
example : mangleFile (fun c => if c = 'ß' then ['S', 'S'] else if c = 'a' then ['A'] else [c])
    ['a', 'a', 'a', 'a', 'a', 'a', 'a', 'ß', '.', 'ß', 'ß'] 1
    = (['A', 'A', 'A', 'A', 'A', 'A', 'A', 'S'], [';', '1']) := by rfl

end Pycdlib

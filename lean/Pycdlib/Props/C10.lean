/-
Props/C10 — UDF descriptor tags and File Identifier packing.
  * `tag_valid`: the tag the library computes for any descriptor body passes the checks of an ECMA-167 reader
    (identifier, checksum over the tag, CRC-CCITT over the body, CRC length, location), for every body < 64 KiB;
  * `crc_ccitt_tie` (Props/TieCrc): the CRC function in udf.py — table regenerated from the source on every run — is the
    bit-by-bit CRC-16/CCITT for every byte string;
  * `fid_spill_is_floor`: the block recorded in each FID's tag is the block its first byte lands in when the FIDs are
    written back to back (they may straddle blocks), for every list of FID lengths ≤ 2048;
  * `fid_len_mul4`: FID lengths are multiples of 4 and hold the name.
-/
import Pycdlib.Model.Udf
import Pycdlib.Generated.Kernel
import Pycdlib.Props.TieCrc
namespace Pycdlib.Udf

theorem crc16_lt (data : List Nat) : crc16 data < 65536 := by
  unfold crc16
  rcases List.eq_nil_or_concat data with rfl | ⟨l, x, rfl⟩
  · decide
  · rw [List.concat_eq_append, List.foldl_append]; exact crc16Byte_lt _ x

/-- the checksum byte is chosen so that the tag checksum comes out, whatever the other fifteen bytes are -/
theorem tagChecksum_self (pre post : List Nat) (h : pre.length = 4) :
    tagChecksum (pre ++ [(pre.sum + post.sum) % 256] ++ post) = (pre ++ [(pre.sum + post.sum) % 256] ++ post).getD 4 0 := by
  have hg : (pre ++ [(pre.sum + post.sum) % 256] ++ post).getD 4 0 = (pre.sum + post.sum) % 256 := by
    simp [List.getD_eq_getElem?_getD, h]
  rw [tagChecksum, hg]
  simp only [List.sum_append, List.sum_cons, List.sum_nil]
  omega

/-- **every tag the library computes is valid** -/
theorem tag_valid (ident ver serial loc : Nat) (body : List Nat)
    (hi : ident < 65536) (hl : loc < 2 ^ 32) (hb : body.length < 65536) :
    tagValid (tagBytes ident ver serial loc body) body ident loc = true := by
  have hc := crc16_lt body
  have hs : tagChecksum (tagBytes ident ver serial loc body) = (tagBytes ident ver serial loc body).getD 4 0 :=
    tagChecksum_self [_, _, _, _] _ rfl
  rw [tagValid, hs]
  -- what is left is that two / four bytes hold a number below 2^16 / 2^32
  simp only [tagBytes, List.cons_append, List.nil_append, List.length_cons, List.length_nil,
    List.getD_cons_zero, List.getD_cons_succ, Bool.and_eq_true, decide_eq_true_eq, true_and, and_true]
  omega

/-- the running-offset loop assigns each FID the block its first byte falls into (absolute position
`blk * bs + off`), for any FID lengths not exceeding a block -/
theorem fid_spill_invariant (bs : Nat) (hbs : 0 < bs) (lens : List Nat) (hl : ∀ l ∈ lens, l ≤ bs)
    (blk off : Nat) (ho : off < 2 * bs) :
    fidAssign bs blk off lens = fidStartBlocks bs (blk * bs + off) lens := by
  induction lens generalizing blk off with
  | nil => rfl
  | cons l ls ih =>
    have hl' := hl l List.mem_cons_self
    have ih' := fun b o ho => ih (fun x hx => hl x (List.mem_cons_of_mem _ hx)) b o ho
    -- the position is in block `blk` or, when the running offset has passed the block size, in the next one
    have hdiv : (blk * bs + off) / bs = blk + off / bs := by
      rw [Nat.add_comm, Nat.add_mul_div_right _ _ hbs, Nat.add_comm]
    simp only [fidAssign, fidStartBlocks, hdiv]
    split <;> dsimp only
    · rw [Nat.div_eq_of_lt_le (k := 1) (by omega) (by omega), ih' _ _ (by omega), Nat.add_mul]
      congr 2; omega
    · rw [Nat.div_eq_of_lt (by omega), ih' _ _ (by omega)]
      congr 2; omega

/-- **FID tag locations**: starting at block 0, the block recorded for each FID is the block in which its
first byte lands when the FIDs are written back to back -/
theorem fid_spill_is_floor (lens : List Nat) (hl : ∀ l ∈ lens, l ≤ 2048) :
    fidAssign 2048 0 0 lens = fidStartBlocks 2048 0 lens := by
  have := fid_spill_invariant 2048 (by decide) lens hl 0 0 (by decide)
  simpa using this

theorem fid_len_mul4 (n : Nat) : fidLen n % 4 = 0 ∧ 38 + (if n > 0 then n + 1 else 0) ≤ fidLen n ∧
    fidLen n < 38 + (if n > 0 then n + 1 else 0) + 4 := by
  unfold fidLen; split <;> omega

/-- tie: `UDFFileIdentifierDescriptor.length`, regenerated from udf.py: 38 + (name + compression id), rounded up to a
multiple of 4 -/
theorem fid_len_tie (n : Nat) : Generated.fid_length n = (fidLen n : Int) := by
  simp only [Generated.fid_length, Generated.fid_pad, fidLen, py_cast]
  split <;> omega

/-- non-vacuity -/
example : tagValid (tagBytes 257 3 0 5 [1, 2, 3]) [1, 2, 3] 257 5 = true := by decide +kernel
example : fidAssign 2048 0 0 [1000, 1000, 1000, 40] = [0, 0, 0, 1] := by decide

end Pycdlib.Udf

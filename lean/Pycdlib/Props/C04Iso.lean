/-
Props/C04Iso — `space_exact`: over EVERY history of edits of the bookkeeping machine `Model/Iso`, the declared volume
size that the edit calls maintain by deltas equals what the from-scratch layout needs, every directory's reservation
covers its records, and the sequential layout is pairwise disjoint and ends exactly at the declared size.

It composes the per-object lemmas (`insert_grows_le_one`, `grow_keeps_fit`, `shrink_keeps_fit`, `PathTable.add_inv` /
`remove_inv`, `sectorsOf_blocks`) over the edit calls with their ONE ceiling division per call.

Every list operation of the machine edits its list at one place; the `…_eq_some` / `…_eq` lemmas say so as a splitting
`pre ++ x :: post`, from which sector sums and facts about all elements follow.
-/
import Pycdlib.Model.Iso
import Pycdlib.Proofs.Pack
import Pycdlib.Props.C04
import Pycdlib.Props.C04PathTable
namespace Pycdlib.Iso
open Pycdlib

theorem updDir_eq_some {id : Nat} {f : Dir → Option (Dir × Nat)} {ds ds' : List Dir} {b : Nat}
    (h : updDir id f ds = some (ds', b)) :
    ∃ pre d post d', ds = pre ++ d :: post ∧ f d = some (d', b) ∧ ds' = pre ++ d' :: post := by
  induction ds generalizing ds' with
  | nil => cases h
  | cons d ds ih =>
    rw [updDir] at h
    split at h <;> obtain ⟨⟨x, _⟩, hx, ⟨⟩⟩ := Option.map_eq_some_iff.mp h
    · exact ⟨[], d, ds, x, rfl, hx, rfl⟩
    · obtain ⟨pre, e, post, e', rfl, hf, rfl⟩ := ih hx
      exact ⟨d :: pre, e, post, e', rfl, hf, rfl⟩

theorem dropDir_eq_some {id : Nat} {ds ds' : List Dir} {b : Nat} (h : dropDir id ds = some (ds', b)) :
    ∃ pre d post, ds = pre ++ d :: post ∧ ds' = pre ++ post ∧ b = d.dataLen := by
  induction ds generalizing ds' with
  | nil => cases h
  | cons d ds ih =>
    rw [dropDir] at h
    split at h
    · cases h; exact ⟨[], d, ds, rfl, rfl, rfl⟩
    · obtain ⟨⟨x, _⟩, hx, ⟨⟩⟩ := Option.map_eq_some_iff.mp h
      obtain ⟨pre, e, post, rfl, rfl, rfl⟩ := ih hx
      exact ⟨d :: pre, e, post, rfl, rfl, rfl⟩

theorem updUDir_eq_some {id : Nat} {f : UDir → Option (UDir × Nat)} {us us' : List UDir} {b : Nat}
    (h : updUDir id f us = some (us', b)) :
    ∃ pre u post u', us = pre ++ u :: post ∧ f u = some (u', b) ∧ us' = pre ++ u' :: post := by
  induction us generalizing us' with
  | nil => cases h
  | cons u us ih =>
    rw [updUDir] at h
    split at h <;> obtain ⟨⟨x, _⟩, hx, ⟨⟩⟩ := Option.map_eq_some_iff.mp h
    · exact ⟨[], u, us, x, rfl, hx, rfl⟩
    · obtain ⟨pre, e, post, e', rfl, hf, rfl⟩ := ih hx
      exact ⟨u :: pre, e, post, e', rfl, hf, rfl⟩

theorem dropUDir_eq_some {id : Nat} {us us' : List UDir} {b : Nat} (h : dropUDir id us = some (us', b)) :
    ∃ pre u post, us = pre ++ u :: post ∧ fidBlocks u.info = 1 ∧ us' = pre ++ post ∧ b = 2 * BS := by
  induction us generalizing us' with
  | nil => cases h
  | cons u us ih =>
    rw [dropUDir] at h
    split at h
    · obtain ⟨hfid, ⟨⟩⟩ := Option.ite_none_right_eq_some.mp h
      exact ⟨[], u, us, rfl, hfid, rfl, rfl⟩
    · obtain ⟨⟨x, _⟩, hx, ⟨⟩⟩ := Option.map_eq_some_iff.mp h
      obtain ⟨pre, e, post, rfl, he, rfl, rfl⟩ := ih hx
      exact ⟨u :: pre, e, post, rfl, he, rfl, rfl⟩

theorem ceAdd_eq (len : Nat) (bs : List Susp.Block) :
    (∃ pre b post r, bs = pre ++ b :: post ∧ Susp.addEntry BS b len = some r ∧ ceAdd len bs = (pre ++ r.2 :: post, 0)) ∨
    ∃ b, (b = [] ∨ ∃ r, Susp.addEntry BS [] len = some r ∧ b = r.2) ∧ ceAdd len bs = (bs ++ [b], BS) := by
  induction bs with
  | nil =>
    refine .inr ⟨_, ?_, rfl⟩
    cases h : Susp.addEntry BS [] len with
    | none => exact .inl rfl
    | some r => exact .inr ⟨r, rfl, rfl⟩
  | cons b bs ih =>
    rw [ceAdd]
    split
    · next r hr => exact .inl ⟨[], b, bs, r, rfl, hr, rfl⟩
    · rcases ih with ⟨pre, e, post, r, rfl, hr, he⟩ | ⟨e, hr, he⟩
      · exact .inl ⟨b :: pre, e, post, r, rfl, hr, by rw [he]; rfl⟩
      · exact .inr ⟨e, hr, by rw [he]; rfl⟩

theorem ceFree_eq_some {idx off len : Nat} {bs bs' : List Susp.Block} {n : Nat} (h : ceFree idx off len bs = some (bs', n)) :
    ∃ pre b post, bs = pre ++ b :: post ∧
      (bs' = pre ++ post ∧ n = BS ∨ bs' = pre ++ Susp.removeEntry b off len :: post ∧ n = 0) := by
  induction bs generalizing idx bs' with
  | nil => cases h
  | cons b bs ih =>
    rw [ceFree] at h
    split at h
    · obtain ⟨-, h⟩ := Option.ite_none_right_eq_some.mp h
      split at h <;> cases h
      · exact ⟨[], b, bs, rfl, .inl ⟨rfl, rfl⟩⟩
      · exact ⟨[], b, bs, rfl, .inr ⟨rfl, rfl⟩⟩
    · obtain ⟨⟨x, _⟩, hx, ⟨⟩⟩ := Option.map_eq_some_iff.mp h
      obtain ⟨pre, e, post, rfl, ⟨rfl, rfl⟩ | ⟨rfl, rfl⟩⟩ := ih hx
      · exact ⟨b :: pre, e, post, rfl, .inl ⟨rfl, rfl⟩⟩
      · exact ⟨b :: pre, e, post, rfl, .inr ⟨rfl, rfl⟩⟩

theorem linkIno_eq (id len n nu : Nat) (is : List Ino) :
    (∃ pre i post, is = pre ++ i :: post ∧
      linkIno id len n nu is = (pre ++ { i with links := i.links + n, nudf := i.nudf + nu } :: post, feAdd nu i.nudf)) ∨
    linkIno id len n nu is = (is ++ [{ id := id, len := len, links := n, nudf := nu }], len + feAdd nu 0) := by
  induction is with
  | nil => exact .inr rfl
  | cons i is ih =>
    rw [linkIno]
    split
    · exact .inl ⟨[], i, is, rfl, rfl⟩
    · rcases ih with ⟨pre, j, post, rfl, hj⟩ | hj
      · exact .inl ⟨i :: pre, j, post, rfl, by rw [hj]; rfl⟩
      · exact .inr (by rw [hj]; rfl)

/-- removing the last name of a content releases exactly its bytes (and its File Entry sector with the last UDF name);
removing one of several names releases at most the File Entry sector -/
theorem unlink_releases_iff (id n nu : Nat) (i : Ino) (is : List Ino) (hid : i.id = id) (hc : nu ≤ i.nudf ∧ nu ≤ n) :
    unlinkIno id n nu (i :: is) =
      (if n < i.links then some ({ i with links := i.links - n, nudf := i.nudf - nu } :: is, feRel nu i.nudf)
       else if n = i.links ∧ nu = i.nudf then some (is, i.len + feRel nu i.nudf) else none) := by
  simp only [unlinkIno, if_pos hid, if_pos hc]

theorem unlinkIno_eq_some {id n nu : Nat} {is is' : List Ino} {b : Nat} (h : unlinkIno id n nu is = some (is', b)) :
    ∃ pre i post, is = pre ++ i :: post ∧ nu ≤ i.nudf ∧
      (n < i.links ∧ is' = pre ++ { i with links := i.links - n, nudf := i.nudf - nu } :: post ∧ b = feRel nu i.nudf ∨
       nu = i.nudf ∧ is' = pre ++ post ∧ b = i.len + feRel nu i.nudf) := by
  induction is generalizing is' with
  | nil => cases h
  | cons i is ih =>
    by_cases hid : i.id = id
    · by_cases hc : nu ≤ i.nudf ∧ nu ≤ n
      · rw [unlink_releases_iff id n nu i is hid hc] at h
        split at h
        · next hlt => cases h; exact ⟨[], i, is, rfl, hc.1, .inl ⟨hlt, rfl, rfl⟩⟩
        · obtain ⟨hlast, ⟨⟩⟩ := Option.ite_none_right_eq_some.mp h
          exact ⟨[], i, is, rfl, hc.1, .inr ⟨hlast.2, rfl, rfl⟩⟩
      · simp only [unlinkIno, if_pos hid, if_neg hc] at h; cases h
    · simp only [unlinkIno, if_neg hid] at h
      obtain ⟨⟨x, _⟩, hx, ⟨⟩⟩ := Option.map_eq_some_iff.mp h
      obtain ⟨pre, j, post, rfl, hnu, ⟨hn, rfl, rfl⟩ | ⟨hn, rfl, rfl⟩⟩ := ih hx
      · exact ⟨i :: pre, j, post, rfl, hnu, .inl ⟨hn, rfl, rfl⟩⟩
      · exact ⟨i :: pre, j, post, rfl, hnu, .inr ⟨hn, rfl, rfl⟩⟩

theorem sum_map_insert {α : Type} (f : α → Nat) (pre post : List α) (x : α) :
    ((pre ++ x :: post).map f).sum = ((pre ++ post).map f).sum + f x := by
  simp only [List.map_append, List.map_cons, List.sum_append, List.sum_cons]; omega

theorem dirSectors_insert (pre post : List Dir) (d : Dir) :
    dirSectors (pre ++ d :: post) = dirSectors (pre ++ post) + d.dataLen / BS := sum_map_insert _ pre post d

theorem udirSectors_insert (pre post : List UDir) (u : UDir) :
    udirSectors (pre ++ u :: post) = udirSectors (pre ++ post) + (1 + fidBlocks u.info) := sum_map_insert _ pre post u

theorem inoSectors_insert (pre post : List Ino) (i : Ino) :
    inoSectors (pre ++ i :: post) = inoSectors (pre ++ post) + (sectorsOf i.len + feOf i) := sum_map_insert _ pre post i

theorem dirSectors_append (a b : List Dir) : dirSectors (a ++ b) = dirSectors a + dirSectors b := by
  simp only [dirSectors, List.map_append, List.sum_append]

theorem sectorsOf_add_block (len : Nat) : sectorsOf (len + BS) = sectorsOf len + 1 := by
  unfold sectorsOf BS; rw [Nat.add_right_comm, Nat.add_div_right _ (by decide)]

/-- whole blocks pass through the ceiling division: the reason ONE division per call is exact -/
theorem sectorsOf_blocks (k len : Nat) : sectorsOf (k * BS + len) = k + sectorsOf len := by
  unfold sectorsOf BS
  rw [Nat.add_assoc, Nat.add_comm, Nat.add_mul_div_right _ _ (by decide), Nat.add_comm]

theorem layoutEnd_dirs (s : State) (ds : List Dir) :
    layoutEnd { s with dirs := ds } + dirSectors s.dirs = layoutEnd s + dirSectors ds := by
  simp only [layoutEnd]; omega

theorem layoutEnd_udirs (s : State) (us : List UDir) :
    layoutEnd { s with udirs := us } + udirSectors s.udirs = layoutEnd s + udirSectors us := by
  simp only [layoutEnd]; omega

theorem layoutEnd_ceb (s : State) (cb : List Susp.Block) :
    layoutEnd { s with ceb := cb } + s.ceb.length = layoutEnd s + cb.length := by
  simp only [layoutEnd]; omega

theorem layoutEnd_inos (s : State) (is : List Ino) (space : Nat) :
    layoutEnd { s with inos := is, space := space } + inoSectors s.inos = layoutEnd s + inoSectors is := by
  simp only [layoutEnd]; omega

theorem insertRec_spec {idx len : Nat} {d d' : Dir} {b : Nat} (h : insertRec idx len d = some (d', b)) :
    ∃ k, b = k * BS ∧ d'.dataLen / BS = d.dataLen / BS + k ∧ (DirOk d → DirOk d') := by
  rw [insertRec] at h
  obtain ⟨⟨-, -, hlen⟩, ⟨⟩⟩ := Option.ite_none_right_eq_some.mp h
  obtain ⟨k, hk, hb⟩ := growLen_blocks BS d.dataLen (nextFit BS (insertAt d.lens idx len)).1
  refine ⟨k, hb, hk ▸ Nat.add_mul_div_right _ _ (by decide), fun ⟨⟨k0, hk0⟩, hfit, hl⟩ => ⟨⟨k0 + k, ?_⟩, ?_, ?_⟩⟩
  · rw [Nat.add_mul, ← hk0]; exact hk
  · have hgrow := insert_grows_le_one BS (d.lens.take idx) (d.lens.drop idx) len
      (Nat.le_trans (Nat.mul_le_mul_left 2 hlen) (by decide))
    rw [List.take_append_drop] at hgrow
    exact grow_keeps_fit BS d.dataLen _ _ hfit hgrow.1
  · exact List.forall_mem_append.mpr ⟨fun l hm => hl l (List.mem_of_mem_take hm),
      List.forall_mem_cons.mpr ⟨hlen, fun l hm => hl l (List.mem_of_mem_drop hm)⟩⟩

theorem removeRec_spec {idx : Nat} {d d' : Dir} {b : Nat} (h : removeRec idx d = some (d', b)) :
    ∃ k, b = k * BS ∧ d'.dataLen / BS + k = d.dataLen / BS ∧ (DirOk d → DirOk d') := by
  rw [removeRec] at h
  obtain ⟨hidx, ⟨⟩⟩ := Option.ite_none_right_eq_some.mp h
  obtain ⟨k, hk, hb⟩ := shrinkLen_blocks BS d.dataLen (nextFit BS (removeAt d.lens idx))
  refine ⟨k, hb, (Nat.add_mul_div_right _ _ (by decide)).symm.trans (congrArg (· / BS) hk),
    fun ⟨⟨k0, hk0⟩, hfit, hl⟩ => ?_⟩
  -- the list before is the list after with the record inserted, so the packing after is no larger
  have hsplit : d.lens.take idx ++ d.lens[idx] :: d.lens.drop (idx + 1) = d.lens := by
    rw [← List.drop_eq_getElem_cons hidx, List.take_append_drop]
  have hgrow := insert_grows_le_one BS (d.lens.take idx) (d.lens.drop (idx + 1)) d.lens[idx]
    (Nat.le_trans (Nat.mul_le_mul_left 2 (hl _ (List.getElem_mem hidx))) (by decide))
  rw [hsplit] at hgrow
  have hkeep := shrink_keeps_fit BS d.dataLen (nextFit BS (removeAt d.lens idx)) k0 hk0 (by decide)
    (Nat.le_trans (Nat.mul_le_mul_right BS hgrow.2) hfit) (nfFold_mono BS (1, 0) _)
  exact ⟨hkeep.2, hkeep.1, List.forall_mem_append.mpr
    ⟨fun l hm => hl l (List.mem_of_mem_take hm), fun l hm => hl l (List.mem_of_mem_drop hm)⟩⟩

theorem Ok.replaceDir {s : State} {pre post : List Dir} {d d' : Dir} (hok : Ok s) (hds : s.dirs = pre ++ d :: post)
    (hd' : DirOk d → DirOk d') :
    Ok { s with dirs := pre ++ d' :: post } ∧
      layoutEnd { s with dirs := pre ++ d' :: post } + d.dataLen / BS = layoutEnd s + d'.dataLen / BS := by
  obtain ⟨hd, hpt⟩ := hok
  rw [hds, List.forall_mem_append, List.forall_mem_cons] at hd
  refine ⟨⟨List.forall_mem_append.mpr ⟨hd.1, List.forall_mem_cons.mpr ⟨hd' hd.2.1, hd.2.2⟩⟩, hpt⟩, ?_⟩
  have := layoutEnd_dirs s (pre ++ d' :: post)
  rw [hds, dirSectors_insert, dirSectors_insert] at this
  omega

theorem fidBlocks_mono {a b : Nat} (h : a ≤ b) : fidBlocks a ≤ fidBlocks b :=
  Nat.div_le_div_right (Nat.add_le_add_right h 2047)

theorem addFid_spec {len : Nat} {u u' : UDir} {b : Nat} (h : addFid len u = some (u', b)) :
    ∃ k, b = k * BS ∧ fidBlocks u'.info = fidBlocks u.info + k := by
  cases h
  exact ⟨_, rfl, (Nat.add_sub_cancel' (fidBlocks_mono (Nat.le_add_right _ _))).symm⟩

theorem rmFid_spec {len : Nat} {u u' : UDir} {b : Nat} (h : rmFid len u = some (u', b)) :
    ∃ k, b = k * BS ∧ fidBlocks u'.info + k = fidBlocks u.info := by
  rw [rmFid] at h
  obtain ⟨-, ⟨⟩⟩ := Option.ite_none_right_eq_some.mp h
  exact ⟨_, rfl, Nat.add_sub_cancel' (fidBlocks_mono (Nat.sub_le _ _))⟩

theorem setPt_spec (s : State) (tree : Nat) (p : PathTable.PT) :
    (setPt s tree p).space = s.space ∧ (setPt s tree p).inos = s.inos ∧ (setPt s tree p).ceb = s.ceb ∧
      (setPt s tree p).dirs = s.dirs ∧
      layoutEnd (setPt s tree p) + 2 * (ptOf s tree).extents = layoutEnd s + 2 * p.extents ∧
      (Ok s → PathTable.Inv (ptOf s tree) ∧ (PathTable.Inv p → Ok (setPt s tree p))) := by
  unfold setPt ptOf; split
  · exact ⟨rfl, rfl, rfl, rfl, by simp only [layoutEnd]; omega, fun h => ⟨h.2.1, fun hp => ⟨h.1, hp, h.2.2⟩⟩⟩
  · exact ⟨rfl, rfl, rfl, rfl, by simp only [layoutEnd]; omega, fun h => ⟨h.2.2, fun hp => ⟨h.1, h.2.1, hp⟩⟩⟩

/-- an accepted part reports whole blocks, exactly as many as the from-scratch layout grows by -/
theorem addPart_spec {s s' : State} {p : AddPart} {b : Nat} (h : addPart s p = some (s', b)) :
    s'.space = s.space ∧ s'.inos = s.inos ∧ (s'.ceb = s.ceb ∨ ∃ len, p = .ceEntry len ∧ s'.ceb = (ceAdd len s.ceb).1) ∧
      (Ok s → (∃ k, b = k * BS ∧ layoutEnd s' = layoutEnd s + k) ∧ Ok s') := by
  cases p with
  | insert dir idx len =>
    rw [addPart] at h
    simp only [Option.map_eq_some_iff, Prod.mk.injEq, Prod.exists] at h
    obtain ⟨ds', _, hu, rfl, rfl⟩ := h
    obtain ⟨pre, d, post, d', hds, hf, rfl⟩ := updDir_eq_some hu
    obtain ⟨k, hb, hk, hd'⟩ := insertRec_spec hf
    refine ⟨rfl, rfl, .inl rfl, fun hok => ?_⟩
    obtain ⟨hok', hl⟩ := hok.replaceDir hds hd'
    exact ⟨⟨k, hb, by omega⟩, hok'⟩
  | mkdir tree id ptlen lens =>
    rw [addPart] at h
    obtain ⟨⟨hfit, hlens, hptlen⟩, ⟨⟩⟩ := Option.ite_none_right_eq_some.mp h
    obtain ⟨hsp, hin, hce, -, hl, hpt⟩ := setPt_spec s tree (PathTable.add (ptOf s tree) ptlen).1
    refine ⟨hsp, hin, .inl hce, fun hok => ?_⟩
    have hok1 := (hpt hok).2 (PathTable.add_inv _ ptlen (hpt hok).1 hptlen)
    have hex := PathTable.add_extents (ptOf s tree) ptlen
    have hnew : DirOk { id := id, lens := lens, dataLen := BS } := ⟨⟨1, (Nat.one_mul _).symm⟩, by simp [hfit], hlens⟩
    generalize setPt s tree _ = s1 at *
    refine ⟨?_, List.forall_mem_append.mpr ⟨hok1.1, List.forall_mem_singleton.mpr hnew⟩, hok1.2⟩
    have h1 := layoutEnd_dirs s1 (s1.dirs ++ [{ id := id, lens := lens, dataLen := BS }])
    rw [dirSectors_insert, List.append_nil, Nat.div_self (by decide : 0 < BS)] at h1
    -- one block for the new extent, four when the path tables grew
    refine ⟨1 + 4 * (PathTable.add (ptOf s tree) ptlen).2.toNat, ?_, by omega⟩
    rw [PathTable.ite_eq_toNat_mul, Nat.mul_left_comm, Nat.add_mul, Nat.one_mul, Nat.mul_assoc]
  | ceEntry len =>
    cases h
    refine ⟨rfl, rfl, .inr ⟨len, rfl, rfl⟩, fun hok => ⟨?_, hok⟩⟩
    have hl := layoutEnd_ceb s (ceAdd len s.ceb).1
    rcases ceAdd_eq len s.ceb with ⟨pre, b, post, r, hb, -, he⟩ | ⟨b, -, he⟩ <;> rw [he] at hl ⊢
    · simp only [hb, List.length_append, List.length_cons] at hl ⊢
      exact ⟨0, (Nat.zero_mul _).symm, by omega⟩
    · simp only [List.length_append, List.length_cons, List.length_nil] at hl ⊢
      exact ⟨1, (Nat.one_mul _).symm, by omega⟩
  | vd | ufe =>
    cases h; exact ⟨rfl, rfl, .inl rfl, fun hok => ⟨⟨1, (Nat.one_mul _).symm, by simp only [layoutEnd]; omega⟩, hok⟩⟩
  | ufid dir len =>
    rw [addPart] at h
    simp only [Option.map_eq_some_iff, Prod.mk.injEq, Prod.exists] at h
    obtain ⟨us', _, hu, rfl, rfl⟩ := h
    obtain ⟨pre, u, post, u', hus, hf, rfl⟩ := updUDir_eq_some hu
    obtain ⟨k, hb, hfid⟩ := addFid_spec hf
    have hl := layoutEnd_udirs s (pre ++ u' :: post)
    rw [hus, udirSectors_insert, udirSectors_insert] at hl
    exact ⟨rfl, rfl, .inl rfl, fun hok => ⟨⟨k, hb, by omega⟩, hok⟩⟩
  | umkdir id =>
    cases h
    have hl := layoutEnd_udirs s (s.udirs ++ [{ id := id, info := 0 }])
    rw [udirSectors_insert, List.append_nil, show fidBlocks 0 = 0 by decide] at hl
    exact ⟨rfl, rfl, .inl rfl, fun hok => ⟨⟨1, (Nat.one_mul _).symm, by omega⟩, hok⟩⟩

theorem rmPart_spec {s s' : State} {p : RmPart} {b : Nat} (h : rmPart s p = some (s', b)) :
    s'.space = s.space ∧ s'.inos = s.inos ∧
      (s'.ceb = s.ceb ∨ ∃ idx off len n, ceFree idx off len s.ceb = some (s'.ceb, n)) ∧
      (Ok s → (∃ k, b = k * BS ∧ layoutEnd s' + k = layoutEnd s) ∧ Ok s') := by
  cases p with
  | remove dir idx =>
    rw [rmPart] at h
    simp only [Option.map_eq_some_iff, Prod.mk.injEq, Prod.exists] at h
    obtain ⟨ds', _, hu, rfl, rfl⟩ := h
    obtain ⟨pre, d, post, d', hds, hf, rfl⟩ := updDir_eq_some hu
    obtain ⟨k, hb, hk, hd'⟩ := removeRec_spec hf
    refine ⟨rfl, rfl, .inl rfl, fun hok => ?_⟩
    obtain ⟨hok', hl⟩ := hok.replaceDir hds hd'
    exact ⟨⟨k, hb, by omega⟩, hok'⟩
  | rmdir tree id ptlen =>
    rw [rmPart] at h
    obtain ⟨hptlen, h⟩ := Option.ite_none_right_eq_some.mp h
    split at h
    · next ds dl q shrank hdrop hrem =>
      cases h
      obtain ⟨hsp, hin, hce, hdi, hl, hpt⟩ := setPt_spec s tree q
      refine ⟨hsp, hin, .inl hce, fun hok => ?_⟩
      -- `remove_from_ptr_size` on an exact reservation never raises, so its answer is the `q, shrank` at hand
      obtain ⟨r, hr, hq, hex⟩ := PathTable.remove_inv (ptOf s tree) ptlen (hpt hok).1 hptlen
      cases hrem.symm.trans hr
      have hok1 := (hpt hok).2 hq
      obtain ⟨pre, d, post, hds, rfl, rfl⟩ := dropDir_eq_some hdrop
      generalize setPt s tree q = s1 at *
      have hd := hok1.1
      rw [hdi, hds, List.forall_mem_append, List.forall_mem_cons] at hd
      -- the bytes given back are the directory's `data_length`: whole blocks, by `DirOk`
      obtain ⟨⟨k, hk⟩, -⟩ := hd.2.1
      refine ⟨?_, List.forall_mem_append.mpr ⟨hd.1, hd.2.2⟩, hok1.2⟩
      have h1 := layoutEnd_dirs s1 (pre ++ post)
      rw [hdi, hds, dirSectors_insert, hk, Nat.mul_div_cancel _ (by decide : 0 < BS)] at h1
      simp only [PathTable.ite_eq_toNat_mul] at hex
      refine ⟨k + 4 * shrank.toNat, ?_, by omega⟩
      rw [hk, PathTable.ite_eq_toNat_mul, Nat.mul_left_comm, Nat.add_mul, Nat.mul_assoc]
    · cases h
  | ceFree idx off len =>
    rw [rmPart] at h
    simp only [Option.map_eq_some_iff, Prod.mk.injEq, Prod.exists] at h
    obtain ⟨bs', _, hu, rfl, rfl⟩ := h
    refine ⟨rfl, rfl, .inr ⟨idx, off, len, _, hu⟩, fun hok => ⟨?_, hok⟩⟩
    have hl := layoutEnd_ceb s bs'
    obtain ⟨pre, b, post, hb, ⟨rfl, rfl⟩ | ⟨rfl, rfl⟩⟩ := ceFree_eq_some hu <;>
      simp only [hb, List.length_append, List.length_cons] at hl
    · exact ⟨1, (Nat.one_mul _).symm, by omega⟩
    · exact ⟨0, (Nat.zero_mul _).symm, by omega⟩
  | ufid dir len =>
    rw [rmPart] at h
    simp only [Option.map_eq_some_iff, Prod.mk.injEq, Prod.exists] at h
    obtain ⟨us', _, hu, rfl, rfl⟩ := h
    obtain ⟨pre, u, post, u', hus, hf, rfl⟩ := updUDir_eq_some hu
    obtain ⟨k, hb, hfid⟩ := rmFid_spec hf
    have hl := layoutEnd_udirs s (pre ++ u' :: post)
    rw [hus, udirSectors_insert, udirSectors_insert] at hl
    exact ⟨rfl, rfl, .inl rfl, fun hok => ⟨⟨k, hb, by omega⟩, hok⟩⟩
  | urmdir id =>
    rw [rmPart] at h
    simp only [Option.map_eq_some_iff, Prod.mk.injEq, Prod.exists] at h
    obtain ⟨us', _, hu, rfl, rfl⟩ := h
    obtain ⟨pre, u, post, hus, hfid, rfl, rfl⟩ := dropUDir_eq_some hu
    have hl := layoutEnd_udirs s (pre ++ post)
    rw [hus, udirSectors_insert, hfid] at hl
    exact ⟨rfl, rfl, .inl rfl, fun hok => ⟨⟨2, rfl, by omega⟩, hok⟩⟩
  | ufe =>
    rw [rmPart] at h
    obtain ⟨hpos, ⟨⟩⟩ := Option.ite_none_right_eq_some.mp h
    exact ⟨rfl, rfl, .inl rfl, fun hok => ⟨⟨1, (Nat.one_mul _).symm, by simp only [layoutEnd]; omega⟩, hok⟩⟩

/-- `addParts` and `rmParts` are the same fold over their parts; `nil` and `cons` are its equations -/
theorem parts_induction {π : Type} {part : State → π → Option (State × Nat)} {parts : State → List π → Option (State × Nat)}
    (nil : ∀ s, parts s [] = some (s, 0))
    (cons : ∀ s p ps, parts s (p :: ps) =
      match part s p with
      | none => none
      | some (s1, b) => (parts s1 ps).map fun r => (r.1, b + r.2))
    {P : State → Nat → Prop} {s s' : State} {ps : List π} {b : Nat} (h : parts s ps = some (s', b)) (h0 : P s 0)
    (hstep : ∀ p ∈ ps, ∀ s1 s2 a b, P s1 a → part s1 p = some (s2, b) → P s2 (a + b)) : P s' b := by
  suffices ∀ a, P s a → P s' (a + b) by simpa using this 0 h0
  clear h0
  induction ps generalizing s b with
  | nil => cases (nil s).symm.trans h; exact fun a ha => ha
  | cons p ps ih =>
    rw [cons] at h
    split at h
    · cases h
    · next s1 b1 hp =>
      obtain ⟨⟨_, b2⟩, hr, ⟨⟩⟩ := Option.map_eq_some_iff.mp h
      intro a ha
      rw [← Nat.add_assoc]
      exact ih hr (fun q hq => hstep q (List.mem_cons_of_mem _ hq)) _ (hstep p List.mem_cons_self _ _ _ _ ha hp)

theorem addParts_spec {s s' : State} {ps : List AddPart} {b : Nat} (h : addParts s ps = some (s', b)) :
    s'.space = s.space ∧ s'.inos = s.inos ∧ (Ok s → (∃ k, b = k * BS ∧ layoutEnd s' = layoutEnd s + k) ∧ Ok s') :=
  parts_induction (fun _ => rfl) (fun _ _ _ => rfl) (P := fun s1 a => s1.space = s.space ∧ s1.inos = s.inos ∧
      (Ok s → (∃ k, a = k * BS ∧ layoutEnd s1 = layoutEnd s + k) ∧ Ok s1)) h
    ⟨rfl, rfl, fun hok => ⟨⟨0, (Nat.zero_mul _).symm, rfl⟩, hok⟩⟩
    fun p _ s1 s2 a b ⟨hsp, hin, hl⟩ hp => by
      obtain ⟨hsp', hin', -, hl'⟩ := addPart_spec hp
      refine ⟨hsp'.trans hsp, hin'.trans hin, fun hok => ?_⟩
      obtain ⟨⟨k1, ha, hl1⟩, hok1⟩ := hl hok
      obtain ⟨⟨k2, hb, hl2⟩, hok2⟩ := hl' hok1
      exact ⟨⟨k1 + k2, by rw [ha, hb, Nat.add_mul], by omega⟩, hok2⟩

theorem rmParts_spec {s s' : State} {ps : List RmPart} {b : Nat} (h : rmParts s ps = some (s', b)) :
    s'.space = s.space ∧ s'.inos = s.inos ∧ (Ok s → (∃ k, b = k * BS ∧ layoutEnd s' + k = layoutEnd s) ∧ Ok s') :=
  parts_induction (fun _ => rfl) (fun _ _ _ => rfl) (P := fun s1 a => s1.space = s.space ∧ s1.inos = s.inos ∧
      (Ok s → (∃ k, a = k * BS ∧ layoutEnd s1 + k = layoutEnd s) ∧ Ok s1)) h
    ⟨rfl, rfl, fun hok => ⟨⟨0, (Nat.zero_mul _).symm, rfl⟩, hok⟩⟩
    fun p _ s1 s2 a b ⟨hsp, hin, hl⟩ hp => by
      obtain ⟨hsp', hin', -, hl'⟩ := rmPart_spec hp
      refine ⟨hsp'.trans hsp, hin'.trans hin, fun hok => ?_⟩
      obtain ⟨⟨k1, ha, hl1⟩, hok1⟩ := hl hok
      obtain ⟨⟨k2, hb, hl2⟩, hok2⟩ := hl' hok1
      exact ⟨⟨k1 + k2, by rw [ha, hb, Nat.add_mul], by omega⟩, hok2⟩

theorem sectorsOf_zero : sectorsOf 0 = 0 := by decide

theorem sectorsOf_add_fe (len : Nat) (c : Prop) [Decidable c] :
    sectorsOf (len + if c then BS else 0) = sectorsOf len + if c then 1 else 0 := by
  split
  · exact sectorsOf_add_block len
  · rw [Nat.add_zero, Nat.add_zero]

theorem feOf_link (nu nudf : Nat) :
    (if 0 < nudf + nu then 1 else 0) = (if 0 < nudf then 1 else 0) + if nudf = 0 ∧ 0 < nu then 1 else 0 := by
  cases nudf <;> cases nu <;> simp

theorem feOf_unlink (nu nudf : Nat) (h : nu ≤ nudf) :
    (if 0 < nudf - nu then 1 else 0) + (if 0 < nu ∧ nu = nudf then 1 else 0) = if 0 < nudf then 1 else 0 := by
  by_cases h1 : nu = nudf
  · subst h1; cases nu <;> simp
  · have h2 : 0 < nudf - nu := by omega
    have h3 : 0 < nudf := by omega
    simp [h1, h2, h3]

theorem linkIno_sectors (id len n nu : Nat) (is : List Ino) :
    inoSectors (linkIno id len n nu is).1 = inoSectors is + sectorsOf (linkIno id len n nu is).2 := by
  rcases linkIno_eq id len n nu is with ⟨pre, i, post, rfl, h⟩ | h <;> rw [h]
  · have h1 := sectorsOf_add_fe 0 (i.nudf = 0 ∧ 0 < nu)
    have h2 := feOf_link nu i.nudf
    simp only [inoSectors_insert, feOf, feAdd, Nat.zero_add, sectorsOf_zero] at h1 h2 ⊢; omega
  · have h1 := sectorsOf_add_fe len (0 = 0 ∧ 0 < nu)
    have h2 := feOf_link nu 0
    simp only [inoSectors_insert, List.append_nil, feOf, feAdd, Nat.zero_add, Nat.lt_irrefl, if_false] at h1 h2 ⊢; omega

theorem unlinkIno_sectors {id n nu : Nat} {is is' : List Ino} {b : Nat} (h : unlinkIno id n nu is = some (is', b)) :
    inoSectors is' + sectorsOf b = inoSectors is := by
  obtain ⟨pre, i, post, rfl, hnu, ⟨-, rfl, rfl⟩ | ⟨rfl, rfl, rfl⟩⟩ := unlinkIno_eq_some h
  · have h1 := sectorsOf_add_fe 0 (0 < nu ∧ nu = i.nudf)
    have h2 := feOf_unlink nu i.nudf hnu
    simp only [inoSectors_insert, feOf, feRel, Nat.zero_add, sectorsOf_zero] at h1 h2 ⊢; omega
  · have h1 := sectorsOf_add_fe i.len (0 < i.nudf ∧ i.nudf = i.nudf)
    have h2 := feOf_unlink i.nudf i.nudf hnu
    simp only [inoSectors_insert, feOf, feRel, Nat.sub_self, Nat.lt_irrefl, if_false, Nat.zero_add] at h1 h2 ⊢; omega

theorem step_add_eq_some {s s' : State} {parts : List AddPart} {ino : Option (Nat × Nat × Nat × Nat)}
    (h : step s (.add parts ino) = some s') :
    ∃ s1 b r, addParts s parts = some (s1, b) ∧ s' = { s1 with inos := r.1, space := addSpace s1.space (b + r.2) } ∧
      (r = (s1.inos, 0) ∨ ∃ id len n nu, 0 < n ∧ r = linkIno id len n nu s1.inos) := by
  rw [step] at h
  split at h
  · cases h
  · next s1 b hp =>
    split at h
    · cases h; exact ⟨s1, b, (s1.inos, 0), hp, rfl, .inl rfl⟩
    · obtain ⟨hn, ⟨⟩⟩ := Option.ite_none_right_eq_some.mp h
      exact ⟨s1, b, _, hp, rfl, .inr ⟨_, _, _, _, hn.1, rfl⟩⟩

theorem step_rm_eq_some {s s' : State} {parts : List RmPart} {ino : Option (Nat × Nat × Nat)}
    (h : step s (.rm parts ino) = some s') :
    ∃ s1 b r, rmParts s parts = some (s1, b) ∧ s' = { s1 with inos := r.1, space := removeSpace s1.space (b + r.2) } ∧
      (r = (s1.inos, 0) ∨ ∃ id n nu, unlinkIno id n nu s1.inos = some r) := by
  rw [step] at h
  split at h
  · cases h
  · next s1 b hp =>
    split at h
    · cases h; exact ⟨s1, b, (s1.inos, 0), hp, rfl, .inl rfl⟩
    · split at h <;> cases h
      next hu => exact ⟨s1, b, _, hp, rfl, .inr ⟨_, _, _, hu⟩⟩

theorem run_induction {P : State → Prop} {s s' : State} {ops : List Op} (h : run s ops = some s') (hs : P s)
    (hstep : ∀ op ∈ ops, ∀ s s', P s → step s op = some s' → P s') : P s' := by
  induction ops generalizing s with
  | nil => cases h; exact hs
  | cons op ops ih =>
    rw [run] at h
    split at h
    · cases h
    · next s1 h1 => exact ih h (hstep op List.mem_cons_self _ _ hs h1) fun o ho => hstep o (List.mem_cons_of_mem _ ho)

/-- **one public edit keeps the declared size exact and every directory covered** -/
theorem step_inv (s s' : State) (op : Op) (hinv : Inv s) (h : step s op = some s') : Inv s' := by
  obtain ⟨hsp, hok⟩ := hinv
  cases op with
  | add parts ino =>
    obtain ⟨s1, b, r, hp, rfl, hr⟩ := step_add_eq_some h
    obtain ⟨hs1, -, hex⟩ := addParts_spec hp
    obtain ⟨⟨k, rfl, hl⟩, hok1⟩ := hex hok
    refine ⟨?_, hok1⟩
    have hi : inoSectors r.1 = inoSectors s1.inos + sectorsOf r.2 := by
      rcases hr with rfl | ⟨id, len, n, nu, -, rfl⟩
      · simp only [sectorsOf_zero, Nat.add_zero]
      · exact linkIno_sectors ..
    have := layoutEnd_inos s1 r.1 (addSpace s1.space (k * BS + r.2))
    show addSpace s1.space (k * BS + r.2) = _
    rw [addSpace, sectorsOf_blocks] at this ⊢
    omega
  | rm parts ino =>
    obtain ⟨s1, b, r, hp, rfl, hr⟩ := step_rm_eq_some h
    obtain ⟨hs1, -, hex⟩ := rmParts_spec hp
    obtain ⟨⟨k, rfl, hl⟩, hok1⟩ := hex hok
    refine ⟨?_, hok1⟩
    have hi : inoSectors r.1 + sectorsOf r.2 = inoSectors s1.inos := by
      rcases hr with rfl | ⟨id, n, nu, hu⟩
      · simp only [sectorsOf_zero, Nat.add_zero]
      · exact unlinkIno_sectors hu
    have := layoutEnd_inos s1 r.1 (removeSpace s1.space (k * BS + r.2))
    show removeSpace s1.space (k * BS + r.2) = _
    rw [removeSpace, sectorsOf_blocks] at this ⊢
    omega

theorem Inv.dirOk {s : State} (h : Inv s) : ∀ d ∈ s.dirs, DirOk d := h.2.1

theorem run_inv (s s' : State) (ops : List Op) (hinv : Inv s) (h : run s ops = some s') : Inv s' :=
  run_induction h hinv fun op _ s s' hs => step_inv s s' op hs

/-- **space_exact**: after ANY history of edits the declared volume size is what the from-scratch layout needs -/
theorem space_exact (s s' : State) (ops : List Op) (hinv : Inv s) (h : run s ops = some s') :
    s'.space = layoutEnd s' := (run_inv s s' ops hinv h).1

/-- … and every directory's reservation covers its records, in whole blocks -/
theorem dirs_covered (s s' : State) (ops : List Op) (hinv : Inv s) (h : run s ops = some s') :
    ∀ d ∈ s'.dirs, (nextFit BS d.lens).1 * BS ≤ d.dataLen ∧ ∃ k, d.dataLen = k * BS :=
  fun d hd => let ⟨hk, hfit, _⟩ := (run_inv s s' ops hinv h).dirOk d hd; ⟨hfit, hk⟩

/-- … and both path-table reservations are exactly two extents per started 4096 bytes of records -/
theorem path_tables_exact (s s' : State) (ops : List Op) (hinv : Inv s) (h : run s ops = some s') :
    PathTable.Inv s'.pt0 ∧ PathTable.Inv s'.pt1 := (run_inv s s' ops hinv h).2.2

/-! ### every stored content is named (C07) -/

theorem linkIno_named {id len n nu : Nat} {is : List Ino} (hn : 0 < n) (h : ∀ i ∈ is, 0 < i.links) :
    ∀ i ∈ (linkIno id len n nu is).1, 0 < i.links := by
  rcases linkIno_eq id len n nu is with ⟨pre, i, post, rfl, he⟩ | he <;> rw [he] <;>
    simp only [List.forall_mem_append, List.forall_mem_cons] at h ⊢
  · exact ⟨h.1, Nat.lt_of_lt_of_le h.2.1 (Nat.le_add_right _ _), h.2.2⟩
  · exact ⟨h, hn, nofun⟩

theorem unlinkIno_named {id n nu : Nat} {is is' : List Ino} {b : Nat} (hu : unlinkIno id n nu is = some (is', b))
    (h : ∀ i ∈ is, 0 < i.links) : ∀ i ∈ is', 0 < i.links := by
  obtain ⟨pre, i, post, rfl, -, ⟨hn, rfl, -⟩ | ⟨-, rfl, -⟩⟩ := unlinkIno_eq_some hu <;>
    simp only [List.forall_mem_append, List.forall_mem_cons] at h ⊢
  · exact ⟨h.1, Nat.sub_pos_of_lt hn, h.2.2⟩
  · exact ⟨h.1, h.2.2⟩

theorem step_named {s s' : State} {op : Op} (hn : Named s) (h : step s op = some s') : Named s' := by
  cases op with
  | add parts ino =>
    obtain ⟨s1, b, r, hp, rfl, hr⟩ := step_add_eq_some h
    obtain ⟨-, hinos, -⟩ := addParts_spec hp
    have hn1 : ∀ i ∈ s1.inos, 0 < i.links := hinos ▸ hn
    rcases hr with rfl | ⟨id, len, n, nu, hpos, rfl⟩
    · exact hn1
    · exact linkIno_named hpos hn1
  | rm parts ino =>
    obtain ⟨s1, b, r, hp, rfl, hr⟩ := step_rm_eq_some h
    obtain ⟨-, hinos, -⟩ := rmParts_spec hp
    have hn1 : ∀ i ∈ s1.inos, 0 < i.links := hinos ▸ hn
    rcases hr with rfl | ⟨id, n, nu, hu⟩
    · exact hn1
    · exact unlinkIno_named hu hn1

/-- **released at zero**: after any history every stored content still has a name — the last `unlinkIno` removed it from the
store and gave its sectors back (`space_exact` counts exactly the stored contents); `hinv` is not needed -/
theorem contents_named (s s' : State) (ops : List Op) (hinv : Inv s) (hn : Named s) (h : run s ops = some s') :
    Named s' :=
  run_induction h hn fun _ _ _ _ hn hs => step_named hn hs

theorem layoutCounts_sum (s : State) : (layoutCounts s).sum = layoutEnd s := by
  simp only [layoutCounts, layoutEnd, dirSectors, inoSectors, udirSectors, List.sum_append, List.sum_cons, List.sum_nil,
    List.sum_replicate_nat, Nat.mul_one]
  omega

/-- **the objects of a reachable state, placed one after the other from sector 0, are pairwise disjoint, lie inside the
declared size, and the last one ends exactly there** -/
theorem layout_sound (s s' : State) (ops : List Op) (hinv : Inv s) (h : run s ops = some s') :
    (place 0 (layoutCounts s')).Pairwise (fun a b => a.1 + a.2 ≤ b.1) ∧
    (∀ p ∈ place 0 (layoutCounts s'), p.1 + p.2 ≤ s'.space) ∧
    placeEnd 0 (layoutCounts s') = s'.space := by
  have hend : placeEnd 0 (layoutCounts s') = s'.space := by
    rw [placeEnd, layoutCounts_sum, space_exact s s' ops hinv h, Nat.zero_add]
  exact ⟨place_disjoint 0 _, fun p hp => hend ▸ (place_in_bounds 0 _ p hp).2, hend⟩

theorem dirOkB_iff (d : Dir) : dirOkB d = true ↔ DirOk d := by
  have : d.dataLen % BS = 0 ↔ ∃ k, d.dataLen = k * BS :=
    ⟨fun h => ⟨d.dataLen / BS, by unfold BS at *; omega⟩, fun ⟨k, hk⟩ => hk ▸ Nat.mul_mod_left k BS⟩
  simp only [dirOkB, DirOk, Bool.and_eq_true, beq_iff_eq, decide_eq_true_eq, List.all_eq_true, this, and_assoc]

theorem invB_iff (s : State) : invB s = true ↔ Inv s := by
  simp only [invB, Inv, Ok, ptInvB, PathTable.Inv, Bool.and_eq_true, beq_iff_eq, List.all_eq_true, dirOkB_iff, and_assoc]

/-- the state of `PyCdlib.new()` satisfies the invariant: 24 sectors -/
theorem init0_inv : Inv init0 := (invB_iff init0).mp (by decide)

/-- a concrete history: a directory, a file of 5000 bytes named twice, one name removed, the file removed, the directory
removed — the size goes 24 → 25 → 28 → 28 → 25 → 24 -/
example : (run init0 [.add [.insert 0 2 38, .mkdir 0 1 10 [34, 34]] none,
                      .add [.insert 0 2 44, .insert 1 2 44] (some (7, 5000, 2, 0)),
                      .rm [.remove 1 2] (some (7, 1, 0)),
                      .rm [.remove 0 2] (some (7, 1, 0)),
                      .rm [.remove 0 2, .rmdir 0 1 10] none]).map (·.space) = some 24 := by decide

/-- without the single ceiling division per call the sizes would drift: two contents of 1 byte in one call would be
charged one sector (this is why `Op.add` carries at most one content, as every public call does) -/
example : sectorsOf (1 + 1) = 1 ∧ sectorsOf 1 + sectorsOf 1 = 2 := by decide

end Pycdlib.Iso

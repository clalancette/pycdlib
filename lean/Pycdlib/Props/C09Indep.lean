/-
Props/C09Indep — the namespaces are independent trees (C09 "independently of the ISO9660 tree", C10, C13).
`other_ns_untouched`: for every state, every edit except `rm_file` (which by its documented contract removes the
content under all of its names) and a reopen, and every namespace the edit has no path in, the entries of that
namespace after the edit are the entries before it — same paths, same nodes, same order, same flags.
-/
import Pycdlib.Proofs.SpecStep
namespace Pycdlib.Spec

def touches : Op → NS → Bool
  | .addFp a, .iso => a.iso.isSome
  | .addFp a, .joliet => a.joliet.isSome
  | .addFp a, .udf => a.udf.isSome
  | .addDir i _ _ _ _, .iso => i.isSome
  | .addDir _ _ j _ _, .joliet => j.isSome
  | .addDir _ _ _ u _, .udf => u.isSome
  | .rmFile _ _, _ => true
  | .rmDir i _ _, .iso => i.isSome
  | .rmDir _ j _, .joliet => j.isSome
  | .rmDir _ _ u, .udf => u.isSome
  | .addLink _ _ n _ _, ns => n == ns
  | .rmLink n _, ns => n == ns
  | .addSymlink i _ _ _ _ _, .iso => i.isSome
  | .addSymlink _ _ _ j _ _, .joliet => j.isSome
  | .addSymlink _ _ _ _ u _, .udf => u.isSome
  | .setHidden n _ _, ns => n == ns
  | .reopen, _ => true

def inNs (ns : NS) (l : List Entry) : List Entry := l.filter fun e => e.ns = ns

theorem not_mem_targets {i j u : Option Path} {ns : NS} (h : (requested i j u ns).isSome = false) :
    ∀ t ∈ targets i j u, t.1 ≠ ns := by
  rintro t ht rfl
  rw [mem_targets.mp ht] at h
  cases h

theorem inNs_append (ns : NS) (a b : List Entry) : inNs ns (a ++ b) = inNs ns a ++ inNs ns b := List.filter_append ..

theorem inNs_append_other {ns : NS} {l new : List Entry} (h : ∀ e ∈ new, e.ns ≠ ns) : inNs ns (l ++ new) = inNs ns l := by
  have hnew : inNs ns new = [] := List.filter_eq_nil_iff.mpr fun e he => by simpa using h e he
  rw [inNs_append, hnew, List.append_nil]

theorem inNs_filter_other {ns : NS} {l : List Entry} {p : Entry → Bool} (h : ∀ e ∈ l, e.ns = ns → p e = true) :
    inNs ns (l.filter p) = inNs ns l :=
  filter_filter_of_imp fun e he hn => h e he (of_decide_eq_true hn)

theorem inNs_map_other {ns : NS} {l : List Entry} {f : Entry → Entry} (hf : ∀ e, (f e).ns = e.ns)
    (h : ∀ e ∈ l, e.ns = ns → f e = e) : inNs ns (l.map f) = inNs ns l := by
  induction l with
  | nil => rfl
  | cons x xs ih =>
    have ih := ih fun e he => h e (List.mem_cons_of_mem _ he)
    simp only [inNs, List.map_cons, List.filter_cons, hf] at ih ⊢
    split
    next hx => rw [h x List.mem_cons_self (of_decide_eq_true hx), ih]
    next => exact ih

theorem other_ns_untouched (s s' : State) (op : Op) (ns : NS) (h : step s op = some s') (ht : touches op ns = false) :
    inNs ns s'.entries = inNs ns s.entries := by
  cases step_some h with
  | rmFile | rmFileSymlink | reopen => cases ht
  | addFp | addDir | addSymlink =>
    -- here and for `rmDir`, `touches op ns` is `(requested i j u ns).isSome`, whichever `ns` is
    exact inNs_append_other (List.forall_mem_map.mpr (not_mem_targets (by cases ns <;> exact ht)))
  | addLink => exact inNs_append_other (List.forall_mem_singleton.mpr (ne_of_beq_false ht))
  | rmDir =>
    refine inNs_filter_other fun e _ hn => ?_
    simp only [Bool.not_eq_true', List.any_eq_false, decide_eq_true_eq]
    exact fun t hm hc => not_mem_targets (by cases ns <;> exact ht) t hm (hc.1.symm.trans hn)
  | rmLink =>
    refine inNs_filter_other fun x _ hx => ?_
    simp only [Bool.not_eq_true', decide_eq_false_iff_not]
    exact fun hk => ne_of_beq_false ht (hk.1.symm.trans hx)
  | setHidden =>
    exact inNs_map_other (fun e => by split <;> rfl) fun e _ hn =>
      if_neg fun hk => ne_of_beq_false ht (hk.1.symm.trans hn)

end Pycdlib.Spec

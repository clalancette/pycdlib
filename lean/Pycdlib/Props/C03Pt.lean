/-
Props/C03Pt — a path table reads back as exactly the records written, in either byte order, for every list of records.
-/
import Pycdlib.Model.PtBytes
import Pycdlib.Props.C03
namespace Pycdlib.PtBytes
open Pycdlib

theorem encPTR_length (be : Bool) (r : PTRF) :
    (encPTR be r).length = 8 + r.ident.length + r.ident.length % 2 := by
  cases be <;> simp [encPTR, le32, be32, le16, be16] <;> omega

theorem parse_record (be : Bool) {r : PTRF} (h : r.wf) (fuel : Nat) (rest : Bytes) :
    parse be (fuel + 1) (encPTR be r ++ rest) = (parse be fuel rest).map (r :: ·) := by
  have hlen := encPTR_length be r
  obtain ⟨t, ht⟩ : ∃ t, encPTR be r = u8 r.ident.length :: t := ⟨_, rfl⟩
  rw [ht, List.cons_append, parse]
  simp only [u8_toNat_of_lt h.2.2.2, ← List.cons_append, ← ht, List.length_append, hlen, List.take_left' hlen,
    List.drop_left' hlen, decPTR_encPTR be r h, Nat.not_lt.mpr (Nat.le_add_right _ _), if_false]

/-- **path table round trip** -/
theorem parse_render (be : Bool) (recs : List PTRF) (h : ∀ r ∈ recs, r.wf) :
    ∀ fuel, recs.length ≤ fuel → parse be fuel (render be recs) = some recs := by
  induction recs with
  | nil => intro fuel _; cases fuel <;> rfl
  | cons r rs ih =>
    intro fuel hf
    obtain ⟨f, rfl⟩ := Nat.exists_eq_add_one_of_ne_zero (Nat.ne_zero_of_lt hf)
    rw [render, parse_record be (h r List.mem_cons_self),
      ih (fun x hx => h x (List.mem_cons_of_mem _ hx)) f (Nat.le_of_succ_le_succ hf)]
    rfl

/-- both tables carry the same records: what a reader gets from the L table equals what it gets from the M table -/
theorem le_be_agree (recs : List PTRF) (h : ∀ r ∈ recs, r.wf) :
    parse false recs.length (render false recs) = parse true recs.length (render true recs) := by
  rw [parse_render false recs h _ (Nat.le_refl _), parse_render true recs h _ (Nat.le_refl _)]

/-- the size the volume descriptor must declare: 8 + identifier (padded to even) per directory -/
theorem render_length (be : Bool) (recs : List PTRF) :
    (render be recs).length = (recs.map fun r => 8 + r.ident.length + r.ident.length % 2).sum := by
  induction recs with
  | nil => rfl
  | cons r rs ih => simp only [render, List.length_append, encPTR_length, ih, List.map_cons, List.sum_cons]

example : parse false 2 (render false [{ extent := 23, parent := 1, ident := [0] }, { extent := 24, parent := 1, ident := [65, 66, 67] }])
    = some [{ extent := 23, parent := 1, ident := [0] }, { extent := 24, parent := 1, ident := [65, 66, 67] }] := by decide

end Pycdlib.PtBytes

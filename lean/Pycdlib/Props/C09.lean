/-
Props/C09 — Joliet names: the reader gets back the name that was given, and an accepted name is never truncated.
Over-refusal (30 CJK characters are 90 UTF-8 bytes, more than the 64 accepted) is allowed by the property and not
reported.
-/
import Pycdlib.Model.Unicode
namespace Pycdlib
open Reader

theorem be16_toNat (n : Nat) (h : n < 65536) : (n / 256).toUInt8.toNat * 256 + (n % 256).toUInt8.toNat = n := by
  rw [Nat.toUInt8_eq, Nat.toUInt8_eq, UInt8.toNat_ofNat_of_lt' (Nat.div_lt_of_lt_mul h),
    UInt8.toNat_ofNat_of_lt' (Nat.mod_lt _ (by decide))]
  exact Nat.div_add_mod' n 256

/-- an encoded tail is empty or starts with a full 16-bit unit -/
def EvenStart (rest : Bytes) : Prop := rest = [] ∨ ∃ x y r, rest = x :: y :: r

theorem utf16be_evenStart (cs : List Nat) : EvenStart (utf16be cs) := by
  cases cs with
  | nil => exact .inl rfl
  | cons d ds =>
    right
    simp only [utf16be, utf16beOf, List.flatMap_cons]
    split <;> exact ⟨_, _, _, rfl⟩

theorem utf16beToUtf8_unit (n : Nat) (hn : n < 65536) (hs : ¬ (0xD800 ≤ n ∧ n < 0xDC00)) (rest : Bytes)
    (hr : EvenStart rest) :
    utf16beToUtf8 ((n / 256).toUInt8 :: (n % 256).toUInt8 :: rest) = utf8 n ++ utf16beToUtf8 rest := by
  rcases hr with rfl | ⟨x, y, r, rfl⟩
  · simp only [utf16beToUtf8, be16_toNat n hn, List.append_nil]
  · rw [utf16beToUtf8, be16_toNat n hn, if_neg (fun h => hs ⟨h.1, h.2.1⟩)]

theorem utf16beToUtf8_pair (hi lo : Nat) (hhi : 0xD800 ≤ hi ∧ hi < 0xDC00) (hlo : 0xDC00 ≤ lo ∧ lo < 0xE000)
    (rest : Bytes) :
    utf16beToUtf8 ((hi / 256).toUInt8 :: (hi % 256).toUInt8 :: (lo / 256).toUInt8 :: (lo % 256).toUInt8 :: rest)
      = utf8 (0x10000 + (hi - 0xD800) * 1024 + (lo - 0xDC00)) ++ utf16beToUtf8 rest := by
  rw [utf16beToUtf8, be16_toNat hi (by omega), be16_toNat lo (by omega), if_pos ⟨hhi.1, hhi.2, hlo.1, hlo.2⟩]

theorem utf16_one (c : Nat) (hs : isScalar c = true) (rest : Bytes) (hr : EvenStart rest) :
    utf16beToUtf8 (utf16beOf c ++ rest) = utf8 c ++ utf16beToUtf8 rest := by
  simp only [isScalar, Bool.or_eq_true, Bool.and_eq_true, decide_eq_true_eq] at hs
  unfold utf16beOf
  split
  · next hbmp => exact utf16beToUtf8_unit c hbmp (by omega) rest hr
  · -- `c - 0x10000 < 2^20`: ten bits go into each surrogate
    have e : 0x10000 + (0xD800 + (c - 0x10000) / 1024 - 0xD800) * 1024
        + (0xDC00 + (c - 0x10000) % 1024 - 0xDC00) = c := by omega
    exact (utf16beToUtf8_pair _ _ (by omega) (by omega) rest).trans (by rw [e])

/-- **Joliet names**: the reader's decoding of the recorded UTF-16BE identifier is the UTF-8 of the given name -/
theorem joliet_decode_encode (cps : List Nat) (h : ∀ c ∈ cps, isScalar c = true) :
    utf16beToUtf8 (utf16be cps) = utf8s cps := by
  induction cps with
  | nil => simp [utf16be, utf8s, utf16beToUtf8]
  | cons c cs ih =>
    have := utf16_one c (h c List.mem_cons_self) (utf16be cs) (utf16be_evenStart cs)
    simp only [utf16be, utf8s, List.flatMap_cons] at this ih ⊢
    rw [this, ih (fun x hx => h x (List.mem_cons_of_mem _ hx))]

theorem utf8_length (c : Nat) :
    (utf8 c).length = if c < 0x80 then 1 else if c < 0x800 then 2 else if c < 0x10000 then 3 else 4 := by
  simp only [utf8, apply_ite List.length, List.length_cons, List.length_nil]

/-- a scalar never needs more UTF-16 units than UTF-8 bytes -/
theorem units16_le_utf8 (c : Nat) : units16 c ≤ (utf8 c).length := by
  rw [utf8_length, units16]
  split
  · split
    · omega
    · split <;> omega
  · rw [if_neg (by omega), if_neg (by omega)]
    omega

theorem utf16beOf_length (c : Nat) : (utf16beOf c).length = 2 * units16 c := by
  unfold utf16beOf units16; split <;> rfl

theorem utf16be_length_le (cps : List Nat) : (utf16be cps).length ≤ 2 * (utf8s cps).length := by
  induction cps with
  | nil => simp [utf16be, utf8s]
  | cons c cs ih =>
    simp only [utf16be, utf8s, List.flatMap_cons, List.length_append, utf16beOf_length] at ih ⊢
    have := units16_le_utf8 c
    omega

/-- **nothing is truncated**: a name of at most 64 UTF-8 bytes (the library's acceptance test) occupies at most
128 bytes as a Joliet identifier -/
theorem joliet_fits (cps : List Nat) (h : (utf8s cps).length ≤ 64) : (utf16be cps).length ≤ 128 :=
  Nat.le_trans (utf16be_length_le cps) (by omega)

/-- "é中😀" -/
example : utf16beToUtf8 (utf16be [0xE9, 0x4E2D, 0x1F600]) = utf8s [0xE9, 0x4E2D, 0x1F600] := by decide +kernel

end Pycdlib

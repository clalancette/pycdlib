/-
Props/C14 — failure atomicity.
For edits made of per-namespace parts (any state type, preconditions, effects): validating every part before the first
change (`checked`) returns a refused edit's state untouched; when no part's precondition looks at what an earlier part
changes it gives the verdicts and the accepted results of check-and-change in turn (`interleaved`), which is not atomic
(`partial_witness`); a history ends where its accepted sub-history ends.  For the three-namespace tree (`St`, add /
rmdir) independence holds for every edit and every identifier rule.
Which public calls have the `checked` shape is decided against the implementation by refusal injection (harness/props/c14.py).
-/
import Pycdlib.Model.Atomic
namespace Pycdlib.Atomic
open Pycdlib

variable {σ : Type}

/-- **C14**: a refused validate-then-mutate edit changes nothing. -/
theorem refused_unchanged (ps : List (Part σ)) (s : σ) (h : (checked ps s).2 ≠ none) : (checked ps s).1 = s := by
  unfold checked at h ⊢
  cases hf : firstRefusal ps s with
  | some c => rfl
  | none => rw [hf] at h; exact absurd rfl h

theorem firstRefusal_apply (p : Part σ) (ps : List (Part σ))
    (h : ∀ q ∈ ps, ∀ s, q.check (p.apply s) = q.check s) (s : σ) :
    firstRefusal ps (p.apply s) = firstRefusal ps s := by
  induction ps with
  | nil => rfl
  | cons q qs ih =>
    obtain ⟨hq, hqs⟩ := List.forall_mem_cons.mp h
    simp only [firstRefusal]
    rw [hq s]
    cases q.check s with
    | some c => rfl
    | none => exact ih hqs

theorem interleaved_indep (ps : List (Part σ)) (hi : Indep ps) (s : σ) :
    (interleaved ps s).2 = firstRefusal ps s ∧ (firstRefusal ps s = none → (interleaved ps s).1 = applyAll ps s) := by
  induction ps generalizing s with
  | nil => exact ⟨rfl, fun _ => rfl⟩
  | cons p ps ih =>
    obtain ⟨hp, hps⟩ := List.pairwise_cons.mp hi
    simp only [interleaved, firstRefusal]
    cases p.check s with
    | some c => exact ⟨rfl, fun h => nomatch h⟩
    | none => rw [← firstRefusal_apply p ps hp]; exact ih hps (p.apply s)

/-- **the repair preserves accepted behaviour**: same verdict always, same result when accepted -/
theorem checked_agrees (ps : List (Part σ)) (hi : Indep ps) (s : σ) :
    (checked ps s).2 = (interleaved ps s).2 ∧ ((checked ps s).2 = none → checked ps s = interleaved ps s) := by
  obtain ⟨hv, ha⟩ := interleaved_indep ps hi s
  unfold checked
  cases hf : firstRefusal ps s with
  | some c => exact ⟨(hv.trans hf).symm, fun h => nomatch h⟩
  | none => exact ⟨(hv.trans hf).symm, fun _ => (Prod.ext (ha hf) (hv.trans hf)).symm⟩

theorem interleaved_preserves (P : σ → Prop) (ps : List (Part σ))
    (hp : ∀ p ∈ ps, ∀ s, P s → p.check s = none → P (p.apply s)) (s : σ) (h : P s)
    (ha : (interleaved ps s).2 = none) : P (interleaved ps s).1 := by
  induction ps generalizing s with
  | nil => exact h
  | cons p ps ih =>
    obtain ⟨hp1, hps⟩ := List.forall_mem_cons.mp hp
    simp only [interleaved] at ha ⊢
    cases hc : p.check s with
    | some c => rw [hc] at ha; exact nomatch ha
    | none =>
      rw [hc] at ha
      exact ih hps _ (hp1 s h hc) ha

/-- `checked` tests every part on the initial state, while a part keeps `P` only from a state that passes its test:
independence closes the gap, through `checked_agrees`. -/
theorem checked_preserves (P : σ → Prop) (ps : List (Part σ)) (hi : Indep ps)
    (hp : ∀ p ∈ ps, ∀ s, P s → p.check s = none → P (p.apply s)) (s : σ) (h : P s) : P (checked ps s).1 := by
  obtain ⟨hv, ha⟩ := checked_agrees ps hi s
  cases hc : (checked ps s).2 with
  | some c => rw [refused_unchanged ps s (by rw [hc]; exact nofun)]; exact h
  | none => rw [ha hc]; exact interleaved_preserves P ps hp s h (hv ▸ hc)

theorem get_set (s : St) (w v : Which) (n : Ns) : (s.set w n).get v = if v = w then some n else s.get v := by
  cases w <;> cases v <;> rfl

theorem onNs_indep {w v : Which} (h : w ≠ v) {c1 c2 : Ns → Option Cause} {f1 f2 : Ns → Ns} (s : St) :
    (onNs v c2 f2).check ((onNs w c1 f1).apply s) = (onNs v c2 f2).check s := by
  simp only [onNs]
  cases s.get w with
  | none => rfl
  | some ns => rw [get_set, if_neg h.symm]

theorem partFor_indep (L : Legal) (k : Kind) (w v : Which) (h : w ≠ v) (p q : Path) (s : St) :
    (partFor L k v q).check ((partFor L k w p).apply s) = (partFor L k v q).check s := by
  cases k <;> exact onNs_indep h s

theorem parts_indep (L : Legal) (o : Op) : Indep (parts L o) := by
  unfold Indep parts
  have h1 := partFor_indep L o.kind .iso .joliet (by decide)
  have h2 := partFor_indep L o.kind .iso .udf (by decide)
  have h3 := partFor_indep L o.kind .joliet .udf (by decide)
  cases o.iso <;> cases o.joliet <;> cases o.udf <;>
    simp [List.pairwise_cons, h1, h2, h3]

theorem forall_mem_parts (L : Legal) (o : Op) (Q : Part St → Prop) (h : ∀ w p, Q (partFor L o.kind w p)) :
    ∀ q ∈ parts L o, Q q := by
  unfold parts
  cases o.iso <;> cases o.joliet <;> cases o.udf <;> simp [h]

/-- **C14 (tree instance)**: a refused add / rmdir leaves all three namespaces exactly as they were. -/
theorem step_refused_unchanged (L : Legal) (s : St) (o : Op) (h : (stepChecked L s o).2 ≠ none) :
    (stepChecked L s o).1 = s := refused_unchanged _ s h

theorem step_agrees (L : Legal) (s : St) (o : Op) :
    (stepChecked L s o).2 = (stepInterleaved L s o).2 ∧
    ((stepChecked L s o).2 = none → stepChecked L s o = stepInterleaved L s o) :=
  checked_agrees _ (parts_indep L o) s

def accepted (L : Legal) (s : St) (o : Op) : Bool := (stepChecked L s o).2.isNone

/-- a refused edit returns the state it was given, so the history goes on from `s` itself -/
theorem runLog_cons (L : Legal) (s : St) (o : Op) (os : List Op) :
    runLog L s (o :: os) =
      if accepted L s o then ((runLog L (stepChecked L s o).1 os).1, o :: (runLog L (stepChecked L s o).1 os).2)
      else runLog L s os := by
  have hr := step_refused_unchanged L s o
  rw [runLog, accepted]
  rcases hstep : stepChecked L s o with ⟨s', _ | c⟩
  · rfl
  · rw [hstep] at hr
    obtain rfl : s' = s := hr nofun
    rfl

/-- **C14 (histories)**: a history ends in the state of its accepted sub-history, and replaying that sub-history
accepts every edit (later edits behave as if the refused calls had never been made). -/
theorem run_skips_refused (L : Legal) (s : St) (os : List Op) :
    (runLog L s (runLog L s os).2) = runLog L s os := by
  induction os generalizing s with
  | nil => rfl
  | cons o os ih =>
    rw [runLog_cons]
    split
    · next ha => rw [runLog_cons, if_pos ha, ih]
    · exact ih s

theorem run_log_all_accepted (L : Legal) (s : St) (os : List Op) :
    (runLog L s (runLog L s os).2).2 = (runLog L s os).2 := by rw [run_skips_refused]

def anyLegal : Legal := { iso := fun _ _ => true, joliet := fun _ _ => true, udf := fun _ _ => true, isoMaxDepth := none }
def emptySt : St := { iso := some [], joliet := some [], udf := none }
/-- add_fp(iso_path='/A', joliet_path='/NOSUCHDIR/X') -/
def badOp : Op := { kind := .add false, iso := some [[65]], joliet := some [[78], [88]], udf := none }

/-- the interleaved discipline is not atomic (the defect that was repaired): the refused `badOp` leaves `/A` in the ISO
namespace -/
theorem partial_witness :
    (stepInterleaved anyLegal emptySt badOp).2 = some .missingParent ∧
    (stepInterleaved anyLegal emptySt badOp).1.iso = some [⟨[[65]], false⟩] ∧
    (stepChecked anyLegal emptySt badOp).2 = some .missingParent ∧
    (stepChecked anyLegal emptySt badOp).1.iso = some [] := by decide

example : (stepChecked anyLegal emptySt { kind := .add true, iso := some [[65]], joliet := some [[97]], udf := none }).2 = none := by
  decide

def WfNs (ns : Ns) : Prop :=
  (ns.map (·.path)).Nodup ∧ ∀ e ∈ ns, e.path ≠ [] ∧ isDirAt ns e.path.dropLast = true

def Wf (s : St) : Prop := ∀ w ns, s.get w = some ns → WfNs ns

theorem hasPath_iff {ns : Ns} {p : Path} : hasPath ns p = true ↔ p ∈ ns.map (·.path) := by
  simp only [hasPath, List.any_eq_true, List.mem_map, decide_eq_true_eq]

theorem isDirAt_iff {ns : Ns} {p : Path} :
    isDirAt ns p = true ↔ p = [] ∨ ∃ e ∈ ns, e.path = p ∧ e.isDir = true := by
  simp only [isDirAt, Bool.or_eq_true, decide_eq_true_eq, List.any_eq_true, Bool.and_eq_true]

theorem hasChild_iff {ns : Ns} {p : Path} : hasChild ns p = true ↔ ∃ e ∈ ns, e.path.dropLast = p ∧ e.path ≠ [] := by
  simp only [hasChild, List.any_eq_true, Bool.and_eq_true, decide_eq_true_eq]

theorem isDirAt_mono {ns ns' : Ns} {p : Path} (hsub : ∀ x ∈ ns, x.path = p → x ∈ ns')
    (h : isDirAt ns p = true) : isDirAt ns' p = true := by
  rw [isDirAt_iff] at h ⊢
  exact h.imp_right fun ⟨x, hx, hxp, hxd⟩ => ⟨x, hsub x hx hxp, hxp, hxd⟩

theorem ite_some_eq_none {α : Type} {c : Prop} [Decidable c] (a : α) (t : Option α) :
    (if c then some a else t) = none ↔ ¬ c ∧ t = none := by
  split <;> simp [*]

theorem checkAdd_eq_none {legal : Bool → Name → Bool} {md : Option Nat} {d : Bool} {p : Path} {ns : Ns} :
    checkAdd legal md d p ns = none ↔
      ∃ name, p.getLast? = some name ∧ tooDeep md p = false ∧ isDirAt ns p.dropLast = true ∧ legal d name = true ∧
        hasPath ns p = false := by
  cases h : p.getLast? <;> simp [checkAdd, h, ← apply_ite some, ite_some_eq_none]

theorem checkRmdir_eq_none {p : Path} {ns : Ns} :
    checkRmdir p ns = none ↔ p ≠ [] ∧ hasPath ns p = true ∧ isDirAt ns p = true ∧ hasChild ns p = false := by
  simp [checkRmdir, ite_some_eq_none]

theorem add_wf (legal : Bool → Name → Bool) (md : Option Nat) (d : Bool) (p : Path) (ns : Ns) (h : WfNs ns)
    (hc : checkAdd legal md d p ns = none) : WfNs (⟨p, d⟩ :: ns) := by
  obtain ⟨name, hl, -, hpar, -, hdup⟩ := checkAdd_eq_none.mp hc
  have hmono : ∀ q, isDirAt ns q = true → isDirAt (⟨p, d⟩ :: ns) q = true :=
    fun _ => isDirAt_mono fun x hx _ => List.mem_cons_of_mem _ hx
  refine ⟨List.nodup_cons.mpr ⟨fun hin => ?_, h.1⟩, fun e he => ?_⟩
  · rw [hasPath_iff.mpr hin] at hdup
    exact nomatch hdup
  · rcases List.mem_cons.mp he with rfl | he
    · refine ⟨fun (h0 : p = []) => ?_, hmono _ hpar⟩
      rw [h0] at hl
      exact nomatch hl
    · exact ⟨(h.2 e he).1, hmono _ (h.2 e he).2⟩

theorem rmdir_wf (p : Path) (ns : Ns) (h : WfNs ns) (hc : checkRmdir p ns = none) :
    WfNs (ns.filter fun e => e.path ≠ p) := by
  obtain ⟨-, -, -, hchild⟩ := checkRmdir_eq_none.mp hc
  refine ⟨(List.filter_sublist.map _).nodup h.1, fun e he => ?_⟩
  obtain ⟨hmem, -⟩ := List.mem_filter.mp he
  obtain ⟨hne, hpar⟩ := h.2 e hmem
  refine ⟨hne, isDirAt_mono (fun x hx hxp => List.mem_filter.mpr ⟨hx, decide_eq_true fun hxeq => ?_⟩) hpar⟩
  -- the parent of a surviving entry is not the removed directory, because that one had no children
  rw [hasChild_iff.mpr ⟨e, hmem, by rw [← hxeq, hxp], hne⟩] at hchild
  exact nomatch hchild

theorem onNs_preserves_wf (w : Which) {chk : Ns → Option Cause} {f : Ns → Ns}
    (hf : ∀ ns, WfNs ns → chk ns = none → WfNs (f ns)) (s : St) (h : Wf s) (hc : (onNs w chk f).check s = none) :
    Wf ((onNs w chk f).apply s) := by
  simp only [onNs] at hc ⊢
  cases hw : s.get w with
  | none => rw [hw] at hc; exact nomatch hc
  | some ns =>
    rw [hw] at hc
    intro v m hv
    rw [get_set] at hv
    split at hv
    · cases hv
      exact hf ns (h w ns hw) hc
    · exact h v m hv

theorem partFor_preserves_wf (L : Legal) (k : Kind) (w : Which) (p : Path) (s : St) (h : Wf s)
    (hc : (partFor L k w p).check s = none) : Wf ((partFor L k w p).apply s) := by
  cases k with
  | add d => exact onNs_preserves_wf w (add_wf (L.get w) _ d p) s h hc
  | rmdir => exact onNs_preserves_wf w (rmdir_wf p) s h hc

/-- **C13 / C14 (tree invariant)**: every accepted add / rmdir keeps all three namespaces well formed — no path twice,
every entry below an existing directory — and every refused one trivially does (it changes nothing). -/
theorem step_preserves_wf (L : Legal) (s : St) (o : Op) (h : Wf s) : Wf (stepChecked L s o).1 :=
  checked_preserves Wf _ (parts_indep L o) (forall_mem_parts L o _ (partFor_preserves_wf L o.kind)) s h

theorem run_preserves_wf (L : Legal) (s : St) (os : List Op) (h : Wf s) : Wf (runLog L s os).1 := by
  induction os generalizing s with
  | nil => exact h
  | cons o os ih =>
    rw [runLog_cons]
    split
    · exact ih _ (step_preserves_wf L s o h)
    · exact ih s h

example : Wf emptySt := by
  intro w ns h
  cases w <;> cases h <;> exact ⟨List.nodup_nil, nofun⟩

end Pycdlib.Atomic

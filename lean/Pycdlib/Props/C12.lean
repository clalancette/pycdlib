/-
Props/C12 — hybrid boot data.
  * `calc_cc_spec`: for every geometry and image size the padding pads the image to a whole number of cylinders; it is
    less than a cylinder without EFI, and with EFI it is the smallest such padding that holds the backup GPT
    (`backup_gpt_in_padding`: the backup GPT never overlaps the ISO); the cylinder count is the padded size in
    cylinders, capped at 1024;
  * `calc_cc_tie`: `IsoHybrid._calc_cc`, regenerated from isohybrid.py on every run, is that function;
  * `crc32_tie` (Props/TieCrc): isohybrid.crc32 (table regenerated) is the bit-by-bit reflected CRC-32 for every byte string —
    the checksum of GPT headers and partition arrays;
  * `part_covers`: a partition (first, last) computed from an El Torito entry delimits exactly `count` 512-byte
    sectors starting at four times the entry's sector; `mbr_rba` is four times the boot file's sector.
-/
import Pycdlib.Model.Hybrid
import Pycdlib.Generated.Kernel
import Pycdlib.Props.TieCrc
namespace Pycdlib.Hybrid
open PyOps

theorem pad_mod (n c : Nat) (hc : 0 < c) :
    (n + (if n % c > 0 then c - n % c else 0)) % c = 0 ∧ (if n % c > 0 then c - n % c else 0) < c := by
  have hlt := Nat.mod_lt n hc
  split
  · refine ⟨?_, by omega⟩
    rw [show n + (c - n % c) = n / c * c + c by have := Nat.div_add_mod n c; rw [Nat.mul_comm] at this; omega,
      Nat.add_mod_right, Nat.mul_mod_left]
  · exact ⟨by simp only [Nat.add_zero]; omega, hc⟩

theorem round_up (a c : Nat) (hc : 0 < c) : a ≤ (a + c - 1) / c * c ∧ (a + c - 1) / c * c < a + c := by
  have h1 := Nat.div_add_mod (a + c - 1) c
  have h2 := Nat.mod_lt (a + c - 1) hc
  rw [Nat.mul_comm] at h1
  omega

theorem calc_cc_spec (isoSize heads sectors : Nat) (efi : Bool) (hc : 0 < heads * sectors * 512) :
    let c := heads * sectors * 512
    let r := calcCc isoSize heads sectors efi
    (isoSize + r.2) % c = 0 ∧
    r.1 = min ((isoSize + r.2) / c) 1024 ∧
    (efi = false → r.2 < c) ∧
    (efi = true → gptBackup ≤ r.2 ∧ r.2 < gptBackup + c) := by
  simp only [calcCc]
  generalize heads * sectors * 512 = c at hc
  obtain ⟨hp0, hplt⟩ := pad_mod isoSize c hc
  generalize (if isoSize % c > 0 then c - isoSize % c else 0) = p at hp0 hplt
  cases efi with
  | false => exact ⟨hp0, trivial, fun _ => hplt, fun h => nomatch h⟩
  | true =>
    simp only [Bool.true_and, decide_eq_true_eq]
    split
    · -- whole cylinders are added until the backup GPT fits
      obtain ⟨hk1, hk2⟩ := round_up (gptBackup - p) c hc
      refine ⟨?_, trivial, (fun h => nomatch h), fun _ => ⟨by omega, by omega⟩⟩
      rw [← Nat.add_assoc, Nat.add_mul_mod_self_right]
      exact hp0
    · exact ⟨hp0, trivial, (fun h => nomatch h), fun _ => ⟨by omega, by omega⟩⟩

/-- **the backup GPT never overlaps the ISO**: with EFI the 33 sectors before the end of the padded image start at
or after the end of the ISO data -/
theorem backup_gpt_in_padding (isoSize heads sectors : Nat) (hc : 0 < heads * sectors * 512) :
    isoSize ≤ isoSize + (calcCc isoSize heads sectors true).2 - gptBackup := by
  have := (calc_cc_spec isoSize heads sectors true hc).2.2.2 rfl
  omega

/-- tie to the regenerated `_calc_cc` -/
theorem calc_cc_tie (isoSize heads sectors : Nat) (efi : Bool) (hc : 0 < heads * sectors * 512) :
    Generated.calc_cc isoSize heads sectors (if efi then 1 else 0) =
      ((((calcCc isoSize heads sectors efi).1 : Nat) : Int), (((calcCc isoSize heads sectors efi).2 : Nat) : Int)) := by
  unfold Generated.calc_cc calcCc
  rw [show ((heads : Int) * sectors) * 512 = ((heads * sectors * 512 : Nat) : Int) by
    rw [Int.natCast_mul, Int.natCast_mul]; rfl]
  -- the cylinder size is all that matters of the geometry (generalised before `gptBackup` becomes a literal)
  generalize heads * sectors * 512 = c at hc
  have he : (¬(if efi = true then 1 else 0) = 0) ↔ efi = true := by cases efi <;> simp
  simp only [py_cast, he, show gptBackup = 33 * 512 from rfl, ← Int.natCast_sub (Nat.le_of_lt (Nat.mod_lt isoSize hc))]
  generalize (if 0 < isoSize % c then c - isoSize % c else 0) = p
  -- what is left to lift is the rounding up to whole cylinders, which subtracts under the test that guards it
  by_cases hs : efi = true ∧ p < 33 * 512
  · have h1 : 1 ≤ 33 * 512 - p + c := by omega
    simp only [if_pos hs, py_cast, ← Int.natCast_sub (Nat.le_of_lt hs.2), ← Int.natCast_sub h1]
  · simp only [if_neg hs, py_cast]

/-- a partition derived from an El Torito entry covers exactly its `count` sectors, at four times its sector -/
theorem part_covers (extent count : Nat) (h : 0 < count) :
    (partLbas extent count).1 = 4 * extent ∧ (partLbas extent count).2 - (partLbas extent count).1 + 1 = count := by
  unfold partLbas; omega

theorem mbr_rba (extent : Nat) : mbrRba extent = 4 * extent := by unfold mbrRba; omega

/-- the active partition's size is the cylinder-padded image minus the offset -/
theorem psize_eq (cc heads sectors offset : Nat) : (endFields cc heads sectors offset).2.2.2 = cc * heads * sectors - offset := rfl

/-- non-vacuity: 64 heads x 32 sectors, 1 000 000 bytes -/
example : calcCc 1000000 64 32 false = (1, 48576) := by decide
example : calcCc 1048000 64 32 true = (2, 1049152) := by decide

/-- the MBR's packed CHS: the sector byte holds the sector number (1..63) in its low six bits and bits 8-9 of the
cylinder above them, the cylinder byte the low eight bits; `% 64` and `/ 64` take them apart again -/
theorem chs_unpack (s cyl : Nat) (hs : s < 64) (hc : cyl < 1024) :
    (s + cyl % 1024 / 256 * 64) % 64 = s ∧ (s + cyl % 1024 / 256 * 64) / 64 * 256 + cyl % 256 = cyl := by
  omega

/-- **C12 (MBR geometry)**: the ending CHS fields of the active partition decode, by the MBR rules (cylinder = two high
bits of the sector byte and the cylinder byte, sector = low six bits), to the last cylinder of the padded image and the
last sector of a track, for every geometry and every cylinder count the clamp lets through. -/
theorem end_chs_decodes (cc heads sectors offset : Nat) (hcc : 1 ≤ cc ∧ cc ≤ 1024) (hs : 1 ≤ sectors ∧ sectors ≤ 63)
    (hh : 1 ≤ heads ∧ heads ≤ 256) :
    let f := endFields cc heads sectors offset
    f.2.1 < 256 ∧ f.2.2.1 < 256 ∧ f.1 < 256 ∧
    f.2.1 % 64 = sectors ∧ f.2.1 / 64 * 256 + f.2.2.1 = cc - 1 ∧ f.1 = heads - 1 := by
  dsimp only [endFields]
  obtain ⟨hb, hd⟩ := chs_unpack sectors (cc - 1) (by omega) (by omega)
  exact ⟨by omega, by omega, by omega, hb, hd, rfl⟩

/-- the starting CHS fields decode to the partition offset (in sectors) for every offset below 1024 cylinders -/
theorem start_chs_decodes (offset heads sectors : Nat) (hs : 1 ≤ sectors ∧ sectors ≤ 63) (hh : 1 ≤ heads ∧ heads ≤ 256)
    (ho : offset < 1024 * (heads * sectors)) :
    let f := startChs offset heads sectors
    f.2.1 % 64 - 1 + sectors * (f.1 + heads * (f.2.1 / 64 * 256 + f.2.2)) = offset ∧ 1 ≤ f.2.1 % 64 ∧ f.1 < heads := by
  simp only [startChs]
  have hpos : 0 < sectors := by omega
  have hposh : 0 < heads := by omega
  -- offset = (cyl * heads + head) * sectors + (sector - 1), by two divisions with remainder
  have h1 := Nat.div_add_mod offset sectors
  have h2 := Nat.div_add_mod (offset / sectors) heads
  have h3 : offset / (heads * sectors) = offset / sectors / heads := by
    rw [Nat.mul_comm, Nat.div_div_eq_div_mul]
  have hm : offset % sectors < sectors := Nat.mod_lt _ hpos
  have hc : offset / (heads * sectors) < 1024 := by
    apply Nat.div_lt_of_lt_mul; rw [Nat.mul_comm]; exact ho
  rw [h3] at hc ⊢
  generalize offset / sectors / heads = cyl at *
  generalize hq : offset / sectors = q at *
  have hmh : q % heads < heads := Nat.mod_lt _ hposh
  obtain ⟨hb, hd⟩ := chs_unpack (offset % sectors + 1) cyl (by omega) hc
  rw [hb, hd]
  refine ⟨?_, by omega, hmh⟩
  have e0 : q % heads + heads * cyl = q := by
    rw [Nat.add_comm]; exact h2
  rw [e0]
  omega

/-- **GPT geometry**, for every image size and disk geometry: the backup header is the last 512-byte sector of the
padded image; the backup partition array (32 sectors) lies directly in front of it, behind the last usable LBA, and
starts at or after the end of the ISO data; the partition that covers the ISO ends at or before the last usable LBA;
the primary partition array ends where the usable area begins. -/
theorem gpt_geometry (isoSize heads sectors extent count : Nat) (mac : Bool)
    (hc : 0 < heads * sectors * 512) (hiso : isoSize % 512 = 0) (hpos : 512 ≤ isoSize) :
    let g := gptGeo isoSize heads sectors extent count mac
    let total := isoSize + (calcCc isoSize heads sectors true).2
    total % 512 = 0 ∧ (g.backupLba + 1) * 512 = total ∧ g.backupEntries + 32 = g.backupLba ∧
    g.lastUsable < g.backupEntries ∧ isoSize ≤ g.backupEntries * 512 ∧ g.isoLast ≤ g.lastUsable ∧
    g.primaryEntries + 32 = g.firstUsable ∧ g.primaryLba = 1 := by
  obtain ⟨hmod, -, -, hefi⟩ := calc_cc_spec isoSize heads sectors true hc
  have hpad := (hefi rfl).1
  simp only [gptGeo]
  generalize (calcCc isoSize heads sectors true).2 = pad at *
  obtain ⟨q, hq⟩ := Nat.dvd_of_mod_eq_zero hmod
  have htot : isoSize + pad = 512 * (heads * sectors * q) := by
    rw [hq]; simp only [Nat.mul_comm, Nat.mul_assoc, Nat.mul_left_comm]
  generalize heads * sectors * q = m at htot
  unfold gptBackup at hpad
  have h1 : (isoSize + pad) / 512 = m := by omega
  have h2 : (isoSize + pad - 512) / 512 = m - 1 := by omega
  rw [h1, h2]
  -- nothing below depends on how large the hole for the Apple partition map is; the facts about `/`, `%` are used up
  generalize (if mac = true then 14 else 0) = hole
  clear hmod hefi hq h1 h2 hc
  refine ⟨by omega, by omega, by omega, by omega, by omega, by omega, by omega, trivial⟩

/-- non-vacuity: a 1 MiB image with the default geometry (64 heads, 32 sectors) -/
example : gptGeo 1048576 64 32 30 8 false =
    { primaryLba := 1, backupLba := 4095, firstUsable := 34, lastUsable := 4062, primaryEntries := 2, backupEntries := 4063,
      isoFirst := 0, isoLast := 2047, efiFirst := 120, efiLast := 127 } := by decide +kernel

end Pycdlib.Hybrid

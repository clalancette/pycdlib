/-
Props/C01 — mastering fidelity: theorems about the SPECIFICATION the check compares the image with.

That the image pycdlib writes, read by the Lean reader, is the view of `Spec.run ops` is decided on the implementation
for every generated history (harness/props/c01.py).  What is *proved* is that the specification itself is the simple
object it claims to be: removals are exact, additions are visible and local, a blob exists only while something
refers to it (here), names stay unique (Props/C01Tree).
-/
import Pycdlib.Proofs.SpecStep
namespace Pycdlib.Spec

/-- after garbage collection every remaining blob is referenced by a name or an El Torito entry -/
theorem gc_referenced (s : State) : ∀ bl ∈ s.gc.blobs, s.gc.refs bl.id > 0 := fun _ h => (mem_gc_blobs.mp h).2

/-- **rm_file is exact**: removing a file by one of its names removes precisely the entries of that
content — in every namespace — and leaves every other entry exactly as it was. -/
theorem rmFile_exact (s s' : State) (ns : NS) (p : Path) (e : Entry) (b : Nat)
    (hf : s.find ns p = some e) (hb : e.node = .file b) (h : step s (.rmFile ns p) = some s') :
    ∀ x, x ∈ s'.entries ↔ (x ∈ s.entries ∧ x.node ≠ .file b) := by
  simp only [step, hf, hb, Option.some.injEq] at h
  subst h
  intro x
  simp only [State.gc, List.mem_filter, decide_eq_true_eq]

/-- … and the content itself is released, unless an El Torito entry still refers to it. -/
theorem rmFile_releases (s s' : State) (ns : NS) (p : Path) (e : Entry) (b : Nat)
    (hf : s.find ns p = some e) (hb : e.node = .file b) (hboot : b ∉ s.bootBlobs)
    (h : step s (.rmFile ns p) = some s') :
    ∀ bl ∈ s'.blobs, bl.id ≠ b := by
  simp only [step, hf, hb, Option.some.injEq] at h
  subst h
  intro bl hbl hid
  rcases refs_pos_iff.mp (hid ▸ gc_referenced _ bl hbl) with ⟨x, hx, hxb⟩ | hb'
  · exact of_decide_eq_true (List.mem_filter.mp hx).2 hxb
  · exact hboot hb'

/-- **rm_hard_link is local**: exactly the addressed name disappears. -/
theorem rmLink_local (s s' : State) (ns : NS) (p : Path) (h : step s (.rmLink ns p) = some s') :
    ∀ x, x ∈ s'.entries ↔ (x ∈ s.entries ∧ ¬ (x.ns = ns ∧ x.path = p)) := by
  cases step_some h with
  | rmLink =>
    intro x
    simp only [State.gc, List.mem_filter, Bool.not_eq_true', decide_eq_false_iff_not]

/-- **add_fp is visible and local**: every requested name now refers to one fresh content, and no existing
entry changed. -/
theorem addFp_visible (s s' : State) (a : AddFp) (h : step s (.addFp a) = some s') :
    (∀ x ∈ s.entries, x ∈ s'.entries) ∧
    (∀ p, a.iso = some p → ∃ e ∈ s'.entries, e.ns = .iso ∧ e.path = p ∧ e.node = .file s.next) ∧
    (∀ p, a.joliet = some p → ∃ e ∈ s'.entries, e.ns = .joliet ∧ e.path = p ∧ e.node = .file s.next) ∧
    (∀ p, a.udf = some p → ∃ e ∈ s'.entries, e.ns = .udf ∧ e.path = p ∧ e.node = .file s.next) ∧
    (∃ bl ∈ s'.blobs, bl.id = s.next ∧ bl.cid = a.cid ∧ bl.len = a.len) := by
  cases step_some h with
  | addFp =>
    have hnew : ∀ ns p, requested a.iso a.joliet a.udf ns = some p →
        ∃ e ∈ s.entries ++ (targets a.iso a.joliet a.udf).map (mkEntry s.rr (fun _ => .file s.next) a.rrName a.mode),
          e.ns = ns ∧ e.path = p ∧ e.node = .file s.next :=
      fun ns p hp => ⟨_, List.mem_append_right _ (List.mem_map_of_mem (a := (ns, p)) (mem_targets.mpr hp)), rfl, rfl, rfl⟩
    exact ⟨fun x hx => List.mem_append_left _ hx, hnew .iso, hnew .joliet, hnew .udf,
      _, List.mem_append_right _ (List.mem_singleton.mpr rfl), rfl, rfl, rfl⟩

/-- an operation the specification cannot apply leaves nothing to compare: `run` stops there -/
theorem run_none_of_step_none (s : State) (op : Op) (ops : List Op) (h : step s op = none) :
    run s (op :: ops) = none := by
  simp [run, h]

example :
    (run { rr := false } [.addFp { cid := 1, len := 3, iso := some [[65]], joliet := some [[97]] },
                          .rmFile .joliet [[97]]]).map (·.entries.length) = some 0 := by decide +kernel

end Pycdlib.Spec

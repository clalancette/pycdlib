/-
Props/C15 — the directory walk of the parser terminates on every image.
For an arbitrary child relation (any image, however hostile) the walk that rejects repeated extents visits no extent
twice, hence at most one directory per sector, and needs at most (queue length + unvisited sectors) dequeues: with that
much fuel the model never runs out, i.e. the real loop, which has no fuel, terminates.
-/
import Pycdlib.Model.Walk
namespace Pycdlib.Walk

theorem nodup_bounded_length (n : Nat) (l : List Nat) (hn : l.Nodup) (hb : ∀ x ∈ l, x < n) : l.length ≤ n := by
  simpa using hn.length_le_of_subset (l₂ := List.range n) fun x hx => List.mem_range.mpr (hb x hx)

theorem addChildren_spec {cs q v q' v' : List Nat} (h : addChildren cs q v = some (q', v')) :
    q' = q ++ cs ∧ v' = v ++ cs ∧ (v.Nodup → v'.Nodup) := by
  induction cs generalizing q v with
  | nil => cases h; simp
  | cons c cs ih =>
    rw [addChildren] at h
    split at h
    · cases h
    · next hc =>
      obtain ⟨rfl, rfl, h3⟩ := ih h
      refine ⟨by simp, by simp, fun hv => h3 (List.nodup_append.mpr ⟨hv, by simp, ?_⟩)⟩
      rintro a ha _ hb rfl
      exact hc (List.contains_iff_mem.mpr (List.mem_singleton.mp hb ▸ ha))

theorem addChildren_bounded {n : Nat} {cs q v q' v' : List Nat} (hc : ∀ c ∈ cs, c < n) (hb : ∀ x ∈ v, x < n)
    (h : addChildren cs q v = some (q', v')) : ∀ x ∈ v', x < n := by
  intro x hx
  rw [(addChildren_spec h).2.1] at hx
  exact (List.mem_append.mp hx).elim (hb x) (hc x)

theorem walk_done (children : Nat → List Nat) (P : List Nat → Prop)
    (hP : ∀ {d q v q' v'}, addChildren (children d) q v = some (q', v') → P v → P v')
    {fuel : Nat} {q v r : List Nat} (hv : P v) (h : walk children fuel q v = .done r) : P r := by
  fun_induction walk children fuel q v with
  | case1 | case3 => cases h; exact hv
  | case2 | case4 => cases h
  | case5 f d q v q' v' ha ih => exact ih (hP ha hv) h

/-- **no extent is parsed twice** -/
theorem walk_nodup (children : Nat → List Nat) (fuel : Nat) (q v r : List Nat)
    (hv : v.Nodup) (h : walk children fuel q v = .done r) : r.Nodup :=
  walk_done children List.Nodup (fun ha => (addChildren_spec ha).2.2) hv h

/-- **work bound**: at most one directory per sector of the image -/
theorem walk_bounded (children : Nat → List Nat) (n fuel : Nat) (q v r : List Nat)
    (hc : ∀ d, ∀ c ∈ children d, c < n) (hv : v.Nodup) (hb : ∀ x ∈ v, x < n)
    (h : walk children fuel q v = .done r) : r.length ≤ n :=
  nodup_bounded_length n r (walk_nodup children fuel q v r hv h)
    (walk_done children (∀ x ∈ ·, x < n) (fun ha hb => addChildren_bounded (hc _) hb ha) hb h)

/-- **termination**: the number of dequeues is bounded by |queue| + (sectors not yet visited) -/
theorem walk_terminates (children : Nat → List Nat) (n fuel : Nat) (q v : List Nat)
    (hc : ∀ d, ∀ c ∈ children d, c < n) (hv : v.Nodup) (hb : ∀ x ∈ v, x < n)
    (hf : q.length + (n - v.length) ≤ fuel) : walk children fuel q v ≠ .outOfFuel := by
  fun_induction walk children fuel q v with
  | case1 | case3 | case4 => nofun
  | case2 => simp at hf
  | case5 f d q v q' v' ha ih =>
    have hb' := addChildren_bounded (hc d) hb ha
    obtain ⟨rfl, rfl, hnd⟩ := addChildren_spec ha
    -- each accepted child uses up one of the sectors not yet visited
    have hlen := nodup_bounded_length n _ (hnd hv) hb'
    apply ih (hnd hv) hb'
    simp only [List.length_append, List.length_cons] at hf hlen ⊢
    omega

/-- the fuel a real image needs: one unit per sector -/
theorem walk_fuel_irrelevant (children : Nat → List Nat) (n root : Nat) (hr : root < n)
    (hc : ∀ d, ∀ c ∈ children d, c < n) : walk children n [root] [root] ≠ .outOfFuel :=
  walk_terminates children n n [root] [root] hc (by simp) (by simpa using hr)
    (by simp only [List.length_singleton]; omega)

/-- a two-directory cycle (20 → 21 → 20): the repaired walk answers `repeated` instead of looping -/
theorem cycle_example :
    walk (fun d => if d = 20 then [21] else if d = 21 then [20] else []) 100 [20] [20] = .repeated := by
  decide

end Pycdlib.Walk

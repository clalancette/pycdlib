/-
Props/C17Plan — `modify_file_in_place` touches only what it must: it is refused exactly when the number of sectors would
change, and the writes of an accepted call stay inside the sectors named by `Allowed`.
-/
import Pycdlib.Model.InPlace
namespace Pycdlib.InPlace

theorem refused_iff (i : In) : plan i = none ↔ sectors i.oldLen ≠ sectors i.newLen := by
  unfold plan
  split
  next hne => exact iff_of_true rfl hne
  next heq => exact iff_of_false nofun heq

/-- where a write is allowed to land -/
def Allowed (i : In) (w : Write) : Prop :=
  (∃ x ∈ i.pvds, within w x 1) ∨ (∃ x, i.joliet = some x ∧ within w x 1) ∨ (∃ x, i.enhanced = some x ∧ within w x 1) ∨
  within w i.fileExtent (sectors i.oldLen) ∨ (∃ r ∈ i.recs, ∃ s, recSector r = some s ∧ within w s 1)

theorem mem_optVd {o : Option Nat} {w : Write} : w ∈ optVd o ↔ ∃ x, o = some x ∧ w = (x * 2048, 2048) := by
  cases o <;> simp [optVd]

theorem mem_plan {i : In} {ws : List Write} (h : plan i = some ws) {w : Write} :
    w ∈ ws ↔ (∃ x ∈ i.pvds, w = (x * 2048, 2048)) ∨ (∃ x, i.joliet = some x ∧ w = (x * 2048, 2048)) ∨
      (∃ x, i.enhanced = some x ∧ w = (x * 2048, 2048)) ∨ (i.newLen > 0 ∧ w = (i.fileExtent * 2048, i.newLen)) ∨
      (i.newLen % 2048 ≠ 0 ∧ w = (i.fileExtent * 2048 + sectors i.newLen * 2048 - 1, 1)) ∨
      (i.bootInfo = true ∧ w = (i.fileExtent * 2048 + 8, 56)) ∨ ∃ r ∈ i.recs, w ∈ recWrite r := by
  unfold plan at h
  split at h
  · cases h
  · cases h
    simp only [List.mem_append, List.mem_map, mem_optVd, List.mem_ite_nil_right, List.mem_singleton, List.mem_flatMap,
      or_assoc, eq_comm (b := w)]

theorem sectors_bounds (n : Nat) : n ≤ sectors n * 2048 ∧ sectors n * 2048 < n + 2048 := by
  unfold sectors; omega

theorem recWrite_within (r : Rec) (h : RecOk r) (w : Write) (hw : w ∈ recWrite r) :
    ∃ s, recSector r = some s ∧ within w s 1 := by
  cases r with
  | dir p e o l =>
    obtain rfl := List.mem_singleton.mp hw
    obtain ⟨h1, h2, h3⟩ := h
    exact ⟨p + e - 1, rfl, by simp only; omega, by simp only; omega⟩
  | udf x n =>
    obtain rfl := List.mem_singleton.mp hw
    exact ⟨x, rfl, Nat.le_refl _, by simp only [RecOk] at h ⊢; omega⟩
  | boot => cases hw

/-- **C17 — only the file's sectors, its records and the volume descriptors are touched**: every write of an accepted
call lies inside one volume descriptor sector, inside the file's own sectors, or inside the one sector that holds a
directory record / File Entry of the file — given that the cached packing state of each record is sound (`RecOk`; for
the states mastering and parsing produce that is what `writer_matches_cache` / `writer_no_straddle` of Proofs/Pack say
about the cache, a step that is not composed in Lean) -/
theorem plan_touches_only (i : In) (ws : List Write) (h : plan i = some ws) (hr : ∀ r ∈ i.recs, RecOk r)
    (hb : i.bootInfo = true → 64 ≤ i.newLen) : ∀ w ∈ ws, Allowed i w := by
  intro w hw
  have hs : sectors i.oldLen = sectors i.newLen := Decidable.of_not_not fun hne => by
    rw [(refused_iff i).2 hne] at h; cases h
  have hlo := (sectors_bounds i.newLen).1
  have vd : ∀ x, within (x * 2048, 2048) x 1 := fun x => ⟨Nat.le_refl _, by simp only; omega⟩
  have file : ∀ a n, i.fileExtent * 2048 ≤ a → a + n ≤ i.fileExtent * 2048 + sectors i.newLen * 2048 →
      Allowed i (a, n) := fun a n h1 h2 =>
    Or.inr (Or.inr (Or.inr (Or.inl ⟨h1, by rw [hs, Nat.add_mul]; exact h2⟩)))
  rcases (mem_plan h).mp hw with ⟨x, hx, rfl⟩ | ⟨x, hx, rfl⟩ | ⟨x, hx, rfl⟩ | ⟨h0, rfl⟩ | ⟨h0, rfl⟩ | ⟨h0, rfl⟩ |
    ⟨r, hr', hw⟩
  · exact Or.inl ⟨x, hx, vd x⟩
  · exact Or.inr (Or.inl ⟨x, hx, vd x⟩)
  · exact Or.inr (Or.inr (Or.inl ⟨x, hx, vd x⟩))
  · exact file _ _ (Nat.le_refl _) (by omega)
  · exact file _ _ (by omega) (by omega)
  · exact file _ _ (by omega) (by have := hb h0; omega)
  · exact Or.inr (Or.inr (Or.inr (Or.inr ⟨r, hr', recWrite_within r (hr r hr') w hw⟩)))

/-- **every copy of the PVD is rewritten**, with one whole sector each (the defect repaired in "fix: modify_file_in_place
keeps all copies of the PVD identical" wrote only the first) -/
theorem pvd_copies_identical (i : In) (ws : List Write) (h : plan i = some ws) :
    ∀ x ∈ i.pvds, (x * 2048, 2048) ∈ ws :=
  fun x hx => (mem_plan h).mpr (Or.inl ⟨x, hx, rfl⟩)

/-- three PVD copies, a Joliet descriptor, a 3000-byte file replaced by 2049 bytes, one directory record in the second
sector of its parent, a File Entry and a boot catalog entry -/
example :
    plan { pvds := [16, 17, 18], joliet := some 19, enhanced := none, fileExtent := 40, oldLen := 3000, newLen := 2049,
           recs := [.dir 30 2 120 44, .udf 300 200, .boot], bootInfo := true } =
      some [(32768, 2048), (34816, 2048), (36864, 2048), (38912, 2048), (81920, 2049), (86015, 1), (81928, 56),
            (63564, 44), (614400, 200)] := by decide +kernel

end Pycdlib.InPlace

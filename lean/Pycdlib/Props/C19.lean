/-
Props/C19 — recorded timestamps denote the instant they were made from.
`t` is the instant (seconds since the epoch), `off` the zone's UTC offset in seconds at `t`
(`time.localtime t = civil (t + off)`, checked by the harness for every sampled (instant, zone)).
The theorems quantify over **every** `t` with `t + off` inside 1970..2099 and every `off` that is a
multiple of 15 minutes with |off| < 24 h (this includes -12h..+14h, half-hour and 45-minute zones and
whatever offset is in force around a DST transition).
-/
import Pycdlib.Proofs.Bytes
import Pycdlib.Proofs.Dates
namespace Pycdlib

/-- what `gmtoffset_from_tm` takes for the difference in days — the difference of the years when they differ, else of
the days of the year — is the difference of the day numbers, for the same or neighbouring days -/
theorem yday_diff (d e : Int) (h : e = d ∨ e = d + 1 ∨ e + 1 = d) :
    (if (yearDoy e).1 - (yearDoy d).1 ≠ 0 then (yearDoy e).1 - (yearDoy d).1
      else (yearDoy e).2 + 1 - ((yearDoy d).2 + 1)) = e - d := by
  rcases h with rfl | rfl | rfl
  · simp
  · rcases yearDoy_step d with ⟨hy, hd⟩ | hy <;> rw [hy] <;> split <;> omega
  · rcases yearDoy_step e with ⟨hy, hd⟩ | hy <;> rw [hy] <;> split <;> omega

/-- **the shared mechanism**: `gmtoffset_from_tm` returns exactly the zone offset in 15-minute units —
across day, year and leap-day boundaries in both directions. -/
theorem gmtoffset_exact (t off : Int) (h15 : off % 900 = 0) (hlo : -86400 < off) (hhi : off < 86400) :
    gmtoffset (civil (t + off)) (civil t) = off / 900 := by
  have hD := yday_diff (t / 86400) ((t + off) / 86400) (by omega)
  unfold gmtoffset civil
  simp only [hD]
  omega

/-- local fields + offset denote the instant -/
theorem civil_instant (t off : Int) :
    let c := civil (t + off)
    instantOf c.year c.mon c.mday c.hour c.min c.sec off = t := by
  have hd := civil_days (t + off)
  have hf := civil_fields (t + off)
  simp only at hf ⊢
  unfold instantOf
  rw [hd]; omega

theorem u8_int (x : Int) (h0 : 0 ≤ x) (h1 : x < 256) : ((u8 x.toNat).toNat : Int) = x := by
  rw [u8_toNat']; omega

theorem s8_round (g : Int) (h0 : -128 ≤ g) (h1 : g < 128) : unS8 (s8 g) = g := by
  unfold unS8 s8
  have : (UInt8.ofNat (g % 256).toNat).toNat = (g % 256).toNat := by
    simp [UInt8.toNat_ofNat']; omega
  rw [this]
  split <;> omega

/-- **C19 (directory-record dates, also Rock Ridge TF short form)**: decoding the 7 recorded bytes gives back `t`. -/
theorem dr_date_denotes (t off : Int) (h15 : off % 900 = 0) (hlo : -86400 < off) (hhi : off < 86400)
    (h0 : 0 ≤ t + off) (h1 : t + off < 4102444800) :
    decDrDate (drDate t off) = some t := by
  have hy := civil_year_range (t + off) h0 h1
  have hf := civil_fields (t + off)
  have hi := civil_instant t off
  simp only at hf hi
  unfold drDate decDrDate
  simp only [gmtoffset_exact t off h15 hlo hhi]
  -- from here the calendar is gone: the fields are any numbers in the ranges of `hf`, `hy`, and `hi` says they denote `t`
  generalize civil (t + off) = c at *
  simp (disch := omega) only [u8_int, s8_round]
  rw [← hi]
  congr 2 <;> omega

theorem digit_val (n i : Nat) : dv (digit n i) = ((n / 10 ^ i % 10 : Nat) : Int) := by
  unfold dv digit
  rw [u8_toNat']; omega

theorem digits2_int (x : Int) (h0 : 0 ≤ x) (h1 : x < 100) : 10 * dv (digit x.toNat 1) + dv (digit x.toNat 0) = x := by
  simp only [digit_val, Nat.reducePow]; omega

theorem digits4_int (x : Int) (h0 : 0 ≤ x) (h1 : x < 10000) :
    1000 * dv (digit x.toNat 3) + 100 * dv (digit x.toNat 2) + 10 * dv (digit x.toNat 1) + dv (digit x.toNat 0) = x := by
  simp only [digit_val, Nat.reducePow]; omega

/-- **C19 (volume-descriptor dates, also Rock Ridge TF long form)**. -/
theorem vd_date_denotes (t off : Int) (h15 : off % 900 = 0) (hlo : -86400 < off) (hhi : off < 86400)
    (h0 : 0 ≤ t + off) (h1 : t + off < 4102444800) :
    decVdDate (vdDate t off) = some t := by
  have hy := civil_year_range (t + off) h0 h1
  have hf := civil_fields (t + off)
  have hi := civil_instant t off
  simp only at hf hi
  unfold vdDate decVdDate digits4 digits2
  simp only [gmtoffset_exact t off h15 hlo hhi, List.cons_append, List.nil_append]
  generalize civil (t + off) = c at *
  simp (disch := omega) only [digits4_int, digits2_int, s8_round]
  rw [← hi]
  congr 2; omega

/-- the 12-bit two's complement zone field holds every offset of less than a day, in minutes -/
theorem udf_zone_round (tz : Int) (h0 : -1440 < tz) (h1 : tz < 1440) :
    let tmp := (tz % 65536).toNat
    let raw : Int := (((u8 (tmp / 256 % 16 + 16)).toNat % 16 * 256 + (u8 (tmp % 256)).toNat : Nat) : Int)
    (if raw ≥ 2048 then raw - 4096 else raw) = tz := by
  simp only [u8_toNat']
  split <;> omega

/-- **C19 (UDF timestamps)**: the 12-bit zone field counts minutes. -/
theorem udf_date_denotes (t off : Int) (h15 : off % 900 = 0) (hlo : -86400 < off) (hhi : off < 86400)
    (h0 : 0 ≤ t + off) (h1 : t + off < 4102444800) :
    decUdfDate (udfDate t off) = some t := by
  have hy := civil_year_range (t + off) h0 h1
  have hf := civil_fields (t + off)
  have hi := civil_instant t off
  have hz := udf_zone_round (off / 900 * 15) (by omega) (by omega)
  simp only at hf hi hz
  unfold udfDate decUdfDate
  simp only [le16, leN, gmtoffset_exact t off h15 hlo hhi, List.cons_append, List.nil_append, hz]
  simp only [u8_toNat']
  generalize civil (t + off) = c at *
  rw [← hi]
  congr 2 <;> omega

/-- **C19 (Rock Ridge TF)**: every stamp of a TF entry, in either form, denotes `t`. -/
theorem tf_denotes (flags : Nat) (t off : Int) (h15 : off % 900 = 0) (hlo : -86400 < off) (hhi : off < 86400)
    (h0 : 0 ≤ t + off) (h1 : t + off < 4102444800) :
    ∀ st ∈ tfStamps flags t off,
      (if flags / 128 % 2 = 1 then decVdDate st else decDrDate st) = some t := by
  intro st hst
  unfold tfStamps at hst
  have := List.eq_of_mem_replicate hst
  subst this
  by_cases hl : flags / 128 % 2 = 1
  · simp only [hl, if_true]; exact vd_date_denotes t off h15 hlo hhi h0 h1
  · simp only [hl, if_false]; exact dr_date_denotes t off h15 hlo hhi h0 h1

/-- parse-then-record is the identity on the 7-byte form (the class stores the seven fields verbatim) -/
theorem dr_date_parse_record (b : Bytes) :
    (b.map fun x => u8 x.toNat) = b := by
  have : ∀ x : UInt8, u8 x.toNat = x := by
    intro x; unfold u8
    have : x.toNat % 256 = x.toNat := Nat.mod_eq_of_lt x.toNat_lt
    rw [this]; simp
  simp [this]

/-- non-vacuity: Asia/Kolkata (+05:30) at 2023-11-14T22:13:20Z; Newfoundland (-03:30) on New Year's eve. -/
example : decDrDate (drDate 1700000000 19800) = some 1700000000 := by decide +kernel
example : decUdfDate (udfDate 1700000000 19800) = some 1700000000 := by decide +kernel
example : gmtoffset (civil (1704067200 - 12600)) (civil 1704067200) = -14 := by decide +kernel

end Pycdlib

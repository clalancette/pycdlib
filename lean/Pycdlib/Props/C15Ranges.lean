/-
Props/C15Ranges — the work of the directory walk is bounded by the size of the image: the ranges the walk accepts stay
sorted and pairwise disjoint, so the sectors it reads for directories add up to at most the sectors there are, for any
sequence of (hostile) directory records.  The overlapping-directories defect violated this bound (quadratic memory and
time on a crafted image without a cycle and without a shared extent).
-/
import Pycdlib.Model.Ranges
namespace Pycdlib.Ranges

theorem sorted_cons {r : Nat × Nat} {rs : List (Nat × Nat)} :
    Sorted (r :: rs) ↔ r.1 < r.2 ∧ (∀ b ∈ rs, r.2 ≤ b.1) ∧ Sorted rs := by
  simp only [Sorted, List.pairwise_cons, List.forall_mem_cons]
  exact ⟨fun ⟨⟨h1, h2⟩, h3, h4⟩ => ⟨h3, h1, h2, h4⟩, fun ⟨h3, h1, h2, h4⟩ => ⟨⟨h1, h2⟩, h3, h4⟩⟩

theorem claim_cons_eq_some {r : Nat × Nat} {rs rs' : List (Nat × Nat)} {s e : Nat} :
    claim (r :: rs) s e = some rs' ↔
      (e ≤ r.1 ∧ (s, e) :: r :: rs = rs') ∨ (¬ e ≤ r.1 ∧ r.2 ≤ s ∧ ∃ t, claim rs s e = some t ∧ r :: t = rs') := by
  rw [claim]
  split
  · simp [*]
  · split <;> simp [*]

theorem claim_mem {rs rs' : List (Nat × Nat)} {s e : Nat} (h : claim rs s e = some rs') {x : Nat × Nat} :
    x ∈ rs' ↔ x = (s, e) ∨ x ∈ rs := by
  induction rs generalizing rs' with
  | nil => cases h; simp
  | cons r rs ih =>
    rcases claim_cons_eq_some.mp h with ⟨-, rfl⟩ | ⟨-, -, t, ht, rfl⟩
    · simp
    · simp only [List.mem_cons, ih ht]
      exact or_left_comm

/-- **an accepted claim keeps the ranges sorted and pairwise disjoint** -/
theorem claim_sorted (rs rs' : List (Nat × Nat)) (s e : Nat) (hse : s < e) (hs : Sorted rs)
    (h : claim rs s e = some rs') : Sorted rs' := by
  induction rs generalizing rs' with
  | nil => cases h; exact sorted_cons.mpr ⟨hse, nofun, hs⟩
  | cons r rs ih =>
    obtain ⟨hr, hrb, hrs⟩ := sorted_cons.mp hs
    rcases claim_cons_eq_some.mp h with ⟨hle, rfl⟩ | ⟨-, hge, t, ht, rfl⟩
    · refine sorted_cons.mpr ⟨hse, fun b hb => ?_, hs⟩
      rcases List.mem_cons.mp hb with rfl | hb
      · exact hle
      · exact Nat.le_trans hle (Nat.le_trans (Nat.le_of_lt hr) (hrb b hb))
    · refine sorted_cons.mpr ⟨hr, fun b hb => ?_, ih t hrs ht⟩
      rcases (claim_mem ht).mp hb with rfl | hb
      · exact hge
      · exact hrb b hb

/-- **a claim that meets a range already claimed is refused** -/
theorem claim_refuses_overlap (rs : List (Nat × Nat)) (s e : Nat) (r : Nat × Nat) (hs : Sorted rs) (hr : r ∈ rs)
    (hov : r.1 < e ∧ s < r.2) : claim rs s e = none := by
  induction rs with
  | nil => cases hr
  | cons q qs ih =>
    obtain ⟨hq, hqb, hqs⟩ := sorted_cons.mp hs
    rw [claim]
    rcases List.mem_cons.mp hr with rfl | hr
    · rw [if_neg (by omega), if_neg (by omega)]
    · -- `q` lies in front of `r`, so the claim does not end in front of `q`
      have := hqb r hr
      rw [if_neg (by omega), ih hqs hr]
      split <;> rfl

theorem total_le (rs : List (Nat × Nat)) (lo n : Nat) (hs : Sorted rs) (hb : ∀ r ∈ rs, lo ≤ r.1 ∧ r.2 ≤ n) :
    total rs ≤ n - lo := by
  induction rs generalizing lo with
  | nil => simp [total]
  | cons r rs ih =>
    obtain ⟨hr, hrb, hrs⟩ := sorted_cons.mp hs
    obtain ⟨hbr, hbs⟩ := List.forall_mem_cons.mp hb
    have := ih r.2 hrs fun x hx => ⟨hrb x hx, (hbs x hx).2⟩
    simp only [total, List.map_cons, List.sum_cons] at *
    omega

theorem claimAll_total_le (rs ds : List (Nat × Nat)) (n : Nat) (rs' : List (Nat × Nat)) (hs : Sorted rs)
    (hb : ∀ r ∈ rs, r.2 ≤ n) (hd : ∀ d ∈ ds, 1 ≤ d.2 ∧ d.1 + d.2 ≤ n) (h : claimAll rs ds = some rs') :
    total rs' ≤ n := by
  induction ds generalizing rs with
  | nil => cases h; exact total_le _ 0 n hs fun r hr => ⟨Nat.zero_le _, hb r hr⟩
  | cons d ds ih =>
    obtain ⟨s, k⟩ := d
    obtain ⟨hk, hsk⟩ : 1 ≤ k ∧ s + k ≤ n := hd (s, k) List.mem_cons_self
    rw [claimAll] at h
    split at h
    · cases h
    · next t hc =>
      refine ih t (claim_sorted rs t s (s + k) (by omega) hs hc) (fun r hr => ?_)
        (fun x hx => hd x (List.mem_cons_of_mem _ hx)) h
      rcases (claim_mem hc).mp hr with rfl | hr
      · exact hsk
      · exact hb r hr

/-- **work bound of the walk**: whatever directory records a (hostile) image of `n` sectors presents — any order, any
lengths, any targets inside the image — the directories the walk accepts occupy at most `n` sectors in total; a
directory that would make it read a sector twice is refused -/
theorem walk_reads_each_sector_once (ds : List (Nat × Nat)) (n : Nat) (rs' : List (Nat × Nat))
    (hd : ∀ d ∈ ds, 1 ≤ d.2 ∧ d.1 + d.2 ≤ n) (h : claimAll [] ds = some rs') : total rs' ≤ n :=
  claimAll_total_le [] ds n rs' ⟨List.Pairwise.nil, nofun⟩ nofun hd h

/-- the crafted image of the defect: sub-directories at root+i with k-i blocks each; the second one is refused -/
example : claimAll [] [(22, 10), (23, 9)] = none := by decide
example : claimAll [] [(22, 1), (30, 4), (23, 2)] = some [(22, 23), (23, 25), (30, 34)] := by decide

end Pycdlib.Ranges

/-
Props/C11 — El Torito structures.
  * `validation_sum`: for every platform id the 16-bit words of the recorded validation entry sum to 0 mod 2^16
    and the key bytes are 55 AA;
  * `catalog_length` / `catalog_fits`: validation ‖ initial ‖ (header ‖ entry)*; with at most 31 sections the
    catalog is at most 2048 bytes; the last header is 0x91 and the others 0x90;
  * `entry_fields`: media code, load segment, system type, sector count and load address sit at the offsets a
    BIOS reads them from; floppy sizes 2400/2880/5760 map to media 1/2/3 with sector count 1;
-/
import Pycdlib.Model.Boot
namespace Pycdlib.Boot

theorem words16_append (a b : List Nat) (h : a.length % 2 = 0) : words16 (a ++ b) = words16 a ++ words16 b := by
  induction a using words16.induct with
  | case1 x y rest ih =>
    simp only [List.length_cons] at h
    rw [List.cons_append, List.cons_append, words16, words16, ih (by omega), List.cons_append]
  | case2 x => simp at h
  | case3 => rfl

/-- **the El Torito checksum does its job**: whatever surrounds the checksum word (at an even offset), recording
`elToritoChecksum` of the data with the checksum word zero makes the 16-bit words sum to 0 mod 2^16 -/
theorem checksum_sum_zero (pre post : List Nat) (h : pre.length % 2 = 0) :
    (words16 (pre ++ le16n (elToritoChecksum (pre ++ [0, 0] ++ post)) ++ post)).sum % 65536 = 0 := by
  have hw : ∀ c, c < 65536 →
      (words16 (pre ++ le16n c ++ post)).sum = (words16 pre).sum + c + (words16 post).sum := by
    intro c hc
    rw [List.append_assoc, words16_append _ _ h, words16_append (le16n c) _ (by simp [le16n]), List.sum_append,
      List.sum_append]
    simp only [le16n, words16, List.sum_cons, List.sum_nil]
    omega
  have h0 := hw 0 (by decide)
  rw [hw _ (by unfold elToritoChecksum; omega)]
  unfold elToritoChecksum
  rw [show pre ++ [0, 0] ++ post = pre ++ le16n 0 ++ post from rfl, h0]
  omega

/-- **validation entry**: the words sum to zero modulo 2^16, for every platform id (`hp` is not needed) -/
theorem validation_sum (platform : Nat) (hp : platform < 256) :
    (words16 (validationBytes platform)).sum % 65536 = 0 ∧
    (validationBytes platform).getD 30 0 = 0x55 ∧ (validationBytes platform).getD 31 0 = 0xAA ∧
    (validationBytes platform).length = 32 :=
  ⟨checksum_sum_zero ([1, platform, 0, 0] ++ List.replicate 24 0) [0x55, 0xAA] (by simp), rfl, rfl, rfl⟩

theorem entryBytes_length (e : Entry) : (entryBytes e).length = 32 := by simp [entryBytes, le16n, le32n]

theorem headerBytes_length (l : Bool) (p : Nat) : (headerBytes l p).length = 32 := by simp [headerBytes, le16n]

/-- the model singles out the last section (header 0x91); with that flag as a parameter every section is alike -/
theorem sectionsBytes_cons (x : Nat × Entry) (rest : List (Nat × Entry)) :
    sectionsBytes (x :: rest) = headerBytes rest.isEmpty x.1 ++ entryBytes x.2 ++ sectionsBytes rest := by
  cases rest <;> simp [sectionsBytes]

theorem sectionsBytes_length (s : List (Nat × Entry)) : (sectionsBytes s).length = 64 * s.length := by
  induction s with
  | nil => rfl
  | cons x xs ih =>
    rw [sectionsBytes_cons, List.length_append, List.length_append, headerBytes_length, entryBytes_length, ih,
      List.length_cons]
    omega

/-- **catalog shape**: 64 bytes + 64 per section -/
theorem catalog_length (platform : Nat) (hp : platform < 256) (i : Entry) (s : List (Nat × Entry)) :
    (catalogBytes platform i s).length = 64 + 64 * s.length := by
  unfold catalogBytes
  simp only [List.length_append, (validation_sum platform hp).2.2.2, entryBytes_length, sectionsBytes_length]

/-- with at most 31 sections (the library's limit) the catalog fits its single sector -/
theorem catalog_fits (platform : Nat) (hp : platform < 256) (i : Entry) (s : List (Nat × Entry)) (h : s.length ≤ 31) :
    (catalogBytes platform i s).length ≤ 2048 := by
  rw [catalog_length platform hp]; omega

/-- **entry fields** at the El Torito offsets -/
theorem entry_fields (e : Entry) (h1 : e.loadSeg < 65536) (h2 : e.count < 65536) (h3 : e.rba < 2 ^ 32) :
    let b := entryBytes e
    b.getD 0 0 = (if e.bootable then 0x88 else 0) ∧ b.getD 1 0 = e.media ∧
    b.getD 2 0 + 256 * b.getD 3 0 = e.loadSeg ∧ b.getD 4 0 = e.sysType ∧
    b.getD 6 0 + 256 * b.getD 7 0 = e.count ∧
    b.getD 8 0 + 256 * b.getD 9 0 + 65536 * b.getD 10 0 + 16777216 * b.getD 11 0 = e.rba := by
  simp only [entryBytes, le16n, le32n, List.cons_append, List.nil_append, List.getD_cons_zero, List.getD_cons_succ]
  refine ⟨trivial, trivial, by omega, trivial, by omega, by omega⟩

/-- floppy emulation: the three legal image sizes select media 1, 2, 3 and record one sector; others are refused -/
theorem floppy_media (n : Nat) :
    mediaAndCount "floppy" n = (if n = 2400 then some (1, 1) else if n = 2880 then some (2, 1)
      else if n = 5760 then some (3, 1) else none) := by
  unfold mediaAndCount; simp

theorem last_header (p : Nat) (e : Entry) : (sectionsBytes [(p, e)]).getD 0 0 = 0x91 := by
  simp [sectionsBytes, headerBytes]

theorem nonlast_header (p : Nat) (e : Entry) (x : Nat × Entry) (xs : List (Nat × Entry)) :
    (sectionsBytes ((p, e) :: x :: xs)).getD 0 0 = 0x90 := by
  simp [sectionsBytes, headerBytes]

/-- non-vacuity: platform 0xEF -/
example : (words16 (validationBytes 0xEF)).sum % 65536 = 0 := by decide +kernel

end Pycdlib.Boot

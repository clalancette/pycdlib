/-
Props/C04DirBytes — the contents of a directory fit its reservation, at byte level: the bytes the writer emits for a directory
(Model/DirBytes.render) are exactly as many blocks as the next-fit packing of its record lengths says (Model/Pack), so the
reservation that the bookkeeping machine proves sufficient (`Iso.dirs_covered`) holds the rendered directory, and
`renderDir` with the spare blocks fills `data_length` exactly.
-/
import Pycdlib.Model.DirBytes
import Pycdlib.Props.C04Iso
import Pycdlib.Props.C03
namespace Pycdlib.DirBytes
open Pycdlib

/-- **the rendered directory is exactly the blocks of the next-fit packing** -/
theorem render_length (bs : Nat) (recs : List Bytes) (hl : ∀ r ∈ recs, r.length ≤ bs) :
    ∀ off, off ≤ bs → (render bs off recs).length + off = (nfFold bs (1, off) (recs.map List.length)).1 * bs := by
  induction recs with
  | nil => intro off h; simp [render, nfFold, zeros_length]; omega
  | cons r rs ih =>
    intro off hoff
    have hr := hl r List.mem_cons_self
    have ih' := ih fun x hx => hl x (List.mem_cons_of_mem _ hx)
    simp only [render, List.map_cons, nfFold_cons, nfStep]
    split
    · have h1 := ih' r.length hr
      rw [nfFold_shift bs _ 1 r.length 1, Nat.add_mul, Nat.one_mul]
      simp only [List.length_append, zeros_length]
      omega
    · have h1 := ih' (off + r.length) (by omega)
      simp only [List.length_append]
      omega

theorem renderDir_fills (recs : List Bytes) (dataLen : Nat) (hl : ∀ r ∈ recs, r.length ≤ 2048)
    (hk : ∃ k, dataLen = k * 2048) (hfit : (nextFit 2048 (recs.map List.length)).1 * 2048 ≤ dataLen) :
    (renderDir 2048 recs (dataLen / 2048 - (nextFit 2048 (recs.map List.length)).1)).length = dataLen := by
  obtain ⟨k, rfl⟩ := hk
  have h := render_length 2048 recs hl 0 (Nat.zero_le _)
  have hle := Nat.le_of_mul_le_mul_right hfit (by decide)
  unfold nextFit at hle ⊢
  rw [renderDir, List.length_append, zeros_length, Nat.mul_div_cancel _ (by decide), Nat.sub_mul]
  omega

/-- composition with the bookkeeping machine: in every state reachable by edits, a directory whose records have the lengths
the machine tracks is written into exactly its reservation -/
theorem reachable_dir_fills (s s' : Iso.State) (ops : List Iso.Op) (hinv : Iso.Inv s) (h : Iso.run s ops = some s')
    (d : Iso.Dir) (hd : d ∈ s'.dirs) (recs : List Bytes) (hlens : recs.map List.length = d.lens) :
    (renderDir 2048 recs (d.dataLen / 2048 - (nextFit 2048 d.lens).1)).length = d.dataLen := by
  obtain ⟨hk, hfit, hlen⟩ := (Iso.run_inv s s' ops hinv h).dirOk d hd
  rw [← hlens] at hfit hlen ⊢
  exact renderDir_fills recs d.dataLen (fun r hr => Nat.le_trans (hlen _ (List.mem_map_of_mem hr)) (by decide)) hk hfit

/-- the path-table reservation of a reachable state holds the table: `path_tbl_size` bytes fit into the extents kept for ONE
table (`path_table_num_extents` blocks), for both hierarchies -/
theorem reachable_pt_fits (s s' : Iso.State) (ops : List Iso.Op) (hinv : Iso.Inv s) (h : Iso.run s ops = some s') :
    s'.pt0.size ≤ s'.pt0.extents * 2048 ∧ s'.pt1.size ≤ s'.pt1.extents * 2048 := by
  obtain ⟨h0, h1⟩ := Iso.path_tables_exact s s' ops hinv h
  exact ⟨h0.size_le, h1.size_le⟩

end Pycdlib.DirBytes

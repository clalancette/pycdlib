/-
Props/C13Reloc — relocated directories get distinct identifiers in the relocation directory (C13: a directory never
holds two entries with the same identifier).
-/
import Pycdlib.Model.Reloc
namespace Pycdlib.Reloc
open Pycdlib.Tools

/-- The loop only ever holds `cur` or a numbered identifier, and stops at the first that no child has. -/
theorem relocName_inv {P : List Char → Prop} {ch : List (List Char)} {name : List Char}
    (hnum : ∀ i, P (name ++ fmt3 i)) {fuel idx : Nat} {cur c : List Char} (hcur : P cur)
    (h : relocName ch name fuel idx cur = some c) : P c ∧ c ∉ ch := by
  induction fuel generalizing idx cur with
  | zero => simp [relocName] at h
  | succ fuel ih =>
    rw [relocName] at h
    split at h
    · exact ih (hnum idx) h
    · next hfree => cases h; exact ⟨hcur, hfree⟩

theorem relocName_fresh (ch : List (List Char)) (name : List Char) (fuel idx : Nat) (cur c : List Char)
    (h : relocName ch name fuel idx cur = some c) : c ∉ ch :=
  (relocName_inv (P := fun _ => True) (fun _ => trivial) trivial h).2

theorem relocName_shape (ch : List (List Char)) (name : List Char) (fuel idx : Nat) (cur c : List Char)
    (hc : cur = name ∨ ∃ i, cur = name ++ fmt3 i) (h : relocName ch name fuel idx cur = some c) :
    c = name ∨ ∃ i, c = name ++ fmt3 i :=
  (relocName_inv (P := fun c => c = name ∨ ∃ i, c = name ++ fmt3 i) (fun i => .inr ⟨i, rfl⟩) hc h).1

theorem relocMany_nodup (name : List Char) (k : Nat) : ∀ (ch ch' : List (List Char)), ch.Nodup →
    relocMany name k ch = some ch' → ch'.Nodup := by
  induction k with
  | zero => intro ch ch' hn h; cases h; exact hn
  | succ k ih =>
    intro ch ch' hn h
    rw [relocMany] at h
    split at h
    · next c hr =>
      have hf := relocName_fresh ch name _ _ _ c hr
      exact ih (ch ++ [c]) ch' (List.nodup_append.mpr
        ⟨hn, by simp, fun a ha b hb hab => hf (List.mem_singleton.mp hb ▸ hab ▸ ha)⟩) h
    · cases h

example : relocMany "DATA".toList 4 ["OTHER".toList] =
    some ["OTHER".toList, "DATA".toList, "DATA000".toList, "DATA001".toList, "DATA002".toList] := by decide +kernel

end Pycdlib.Reloc

/-
Props/C20 — the pure logic of pycdlib-genisoimage that the round trip rests on: collision numbering, the cut of
Joliet path components, duplicate detection.  The tree walk, option handling and extraction are decided by running
the real scripts (harness/props/c20.py).
-/
import Pycdlib.Model.Tools
import Pycdlib.Props.C18
namespace Pycdlib.Tools
open Pycdlib

theorem digit_mod (d : Nat) : digit d = digit (d % 10) := by simp [digit]

theorem digit_toNat (d : Nat) : (digit d).toNat = 48 + d % 10 := by
  rw [digit_mod]
  exact (by decide : ∀ x : Fin 10, (digit x.val).toNat = 48 + x.val) (Fin.ofNat 10 d)

theorem digit_eq {a b : Nat} (h : digit a = digit b) : a % 10 = b % 10 := by
  have := congrArg Char.toNat h
  rw [digit_toNat, digit_toNat] at this
  omega

theorem digit_d1 (d : Nat) : isD1Char (digit d) = true := by
  rw [digit_mod]
  exact (by decide : ∀ x : Fin 10, isD1Char (digit x.val) = true) (Fin.ofNat 10 d)

/-- `'%.03d'` is injective below 1000 -/
theorem fmt3_injective (a b : Nat) (ha : a < 1000) (hb : b < 1000) (h : fmt3 a = fmt3 b) : a = b := by
  simp only [fmt3, ha, hb, if_true, List.cons.injEq, and_true] at h
  obtain ⟨h1, h2, h3⟩ := h
  have := digit_eq h1; have := digit_eq h2; have := digit_eq h3
  omega

theorem fmt3_length (a : Nat) (ha : a < 1000) : (fmt3 a).length = 3 := by simp [fmt3, ha]

theorem fmt3_d1 (a : Nat) (ha : a < 1000) : ∀ c ∈ fmt3 a, isD1Char c = true := by
  simp [fmt3, ha, digit_d1]

theorem candidate_injective (d : Bool) (pre ext : List Char) (a b : Nat) (ha : a < 1000) (hb : b < 1000)
    (h : candidate d pre ext a = candidate d pre ext b) : a = b := by
  refine fmt3_injective a b ha hb ?_
  cases d <;> simpa [candidate] using h

theorem firstFree_eq_find? (ch : List (List Char)) (d : Bool) (pre ext : List Char) (fuel n : Nat) :
    firstFree ch d pre ext fuel n
      = ((List.range' n fuel).map (candidate d pre ext)).find? (fun t => decide (t ∉ ch)) := by
  induction fuel generalizing n with
  | zero => rfl
  | succ f ih =>
    rw [firstFree, List.range'_succ, List.map_cons, List.find?_cons, ih]
    split <;> simp [*]

/-- What `build_iso_path` tries for a source name, in this order: the mangled identifier, then the 1000 numbered
ones. -/
def offers (upper : Upper) (name : List Char) (lvl : Nat) (d : Bool) : List (List Char) :=
  let p := if d then (mangleDir upper name lvl, []) else mangleFile upper name lvl
  (if d || p.2 = [] then p.1 else p.1 ++ '.' :: p.2) :: (List.range 1000).map (candidate d (p.1.take 5) p.2)

/-- `build_iso_path` hands out the first offer that no sibling has, and records it. -/
theorem isoChild_eq (upper : Upper) (ch : List (List Char)) (name : List Char) (lvl : Nat) (d : Bool) :
    isoChild upper ch name lvl d =
      let r := (offers upper name lvl d).find? (· ∉ ch)
      (r, r.toList ++ ch) := by
  simp only [isoChild, offers, firstFree_eq_find?, List.range_eq_range']
  generalize (if d then (mangleDir upper name lvl, []) else mangleFile upper name lvl) = p
  generalize (if (d || decide (p.2 = [])) = true then p.1 else p.1 ++ '.' :: p.2) = mangled
  rw [List.find?_cons]
  by_cases hin : mangled ∈ ch
  · simp only [hin, if_true, not_true, decide_false]
    cases List.find? _ _ <;> rfl
  · simp only [hin, if_false, not_false_eq_true, decide_true]
    rfl

theorem mem_offers_of_isoChild {upper : Upper} {ch ch' : List (List Char)} {name t : List Char} {lvl : Nat}
    {d : Bool} (h : isoChild upper ch name lvl d = (some t, ch')) : t ∈ offers upper name lvl d := by
  rw [isoChild_eq] at h
  exact List.mem_of_find?_eq_some (Prod.mk.inj h).1

/-- pigeonhole: the 1000 numbered offers are pairwise distinct -/
theorem length_of_offers_subset (upper : Upper) (name : List Char) (lvl : Nat) (d : Bool) (ch : List (List Char))
    (hall : ∀ t ∈ offers upper name lvl d, t ∈ ch) : 1000 ≤ ch.length := by
  have hnd (pre ext : List Char) : ((List.range 1000).map (candidate d pre ext)).Nodup :=
    List.pairwise_map.mpr (List.nodup_range.imp_of_mem fun ha hb hne heq =>
      hne (candidate_injective d pre ext _ _ (List.mem_range.mp ha) (List.mem_range.mp hb) heq))
  simpa using (hnd _ _).length_le_of_subset fun t ht => hall t (List.mem_cons_of_mem _ ht)

/-- **C20 (collision numbering, one step)**: `build_iso_path` either hands out an identifier that no sibling has,
and records it, or (only when the name and all 1000 numbered candidates are taken) returns None and changes nothing. -/
theorem isoChild_fresh (upper : Upper) (ch : List (List Char)) (name : List Char) (lvl : Nat) (d : Bool) :
    (∃ t, isoChild upper ch name lvl d = (some t, t :: ch) ∧ t ∉ ch) ∨
    (isoChild upper ch name lvl d = (none, ch) ∧ 1000 ≤ ch.length) := by
  rw [isoChild_eq]
  cases hf : (offers upper name lvl d).find? (· ∉ ch) with
  | some t => exact .inl ⟨t, rfl, by simpa using List.find?_some hf⟩
  | none =>
    exact .inr ⟨rfl, length_of_offers_subset upper name lvl d ch fun t ht => by
      simpa using List.find?_eq_none.mp hf t ht⟩

theorem isoChildren_spec (upper : Upper) (lvl : Nat) (d : Bool) (names : List (List Char)) (ch : List (List Char)) :
    let r := isoChildren upper lvl d ch names
    r.2 = (r.1.filterMap id).reverse ++ ch ∧ (ch.Nodup → r.2.Nodup) ∧
    ∀ t ∈ r.1.filterMap id, ∃ n ∈ names, t ∈ offers upper n lvl d := by
  induction names generalizing ch with
  | nil => simp [isoChildren]
  | cons n ns ih =>
    have later {t} : (∃ m ∈ ns, t ∈ offers upper m lvl d) → ∃ m ∈ n :: ns, t ∈ offers upper m lvl d :=
      fun ⟨m, hm, w⟩ => ⟨m, List.mem_cons_of_mem _ hm, w⟩
    simp only [isoChildren]
    rcases isoChild_fresh upper ch n lvl d with ⟨t, ht, hfresh⟩ | ⟨hnone, _⟩
    · obtain ⟨h1, h2, h3⟩ := ih (t :: ch)
      rw [ht]
      refine ⟨by simp [h1], fun hch => h2 (List.nodup_cons.mpr ⟨hfresh, hch⟩), fun x hx => ?_⟩
      rcases List.mem_cons.mp hx with rfl | hx
      · exact ⟨n, List.mem_cons_self, mem_offers_of_isoChild ht⟩
      · exact later (h3 x hx)
    · obtain ⟨h1, h2, h3⟩ := ih ch
      rw [hnone]
      exact ⟨h1, h2, fun x hx => later (h3 x hx)⟩

/-- **C20 (collision numbering, whole directory)**: for every list of source names, level and kind, the identifiers
handed out in one directory are pairwise distinct and distinct from those already there. -/
theorem isoChildren_nodup (upper : Upper) (lvl : Nat) (d : Bool) (names : List (List Char)) (ch : List (List Char))
    (hch : ch.Nodup) :
    let r := isoChildren upper lvl d ch names
    r.2.Nodup ∧ (r.1.filterMap id).Nodup ∧ (∀ t ∈ r.1.filterMap id, t ∉ ch ∧ t ∈ r.2) ∧ (∀ t ∈ ch, t ∈ r.2) := by
  obtain ⟨h1, h2, _⟩ := isoChildren_spec upper lvl d names ch
  intro r
  have hnd : r.2.Nodup := h2 hch
  refine ⟨hnd, ?_⟩
  rw [show r.2 = _ from h1] at hnd ⊢
  obtain ⟨hr, _, hdis⟩ := List.nodup_append.mp hnd
  exact ⟨(List.reverse_perm _).nodup hr, fun t ht => ⟨fun hc => hdis t (List.mem_reverse.mpr ht) t hc rfl,
    List.mem_append_left _ (List.mem_reverse.mpr ht)⟩, fun t ht => List.mem_append_right _ ht⟩

/-- corollary in the form the property uses: starting from an empty directory -/
theorem collision_names_distinct (upper : Upper) (lvl : Nat) (d : Bool) (names : List (List Char)) :
    ((isoChildren upper lvl d [] names).1.filterMap id).Nodup :=
  (isoChildren_nodup upper lvl d names [] List.nodup_nil).2.1

/-- `PREFIX%.03d` with a prefix of at most five d-characters has at most eight, which every level admits. -/
theorem numbered_prefix {pre : List Char} (hp : ∀ c ∈ pre, isD1Char c = true) (hl : pre.length ≤ 5) {n : Nat}
    (hn : n < 1000) :
    (∀ c ∈ pre ++ fmt3 n, isD1Char c = true) ∧ pre ++ fmt3 n ≠ [] ∧
      ∀ lvl d, (pre ++ fmt3 n).length ≤ maxLen lvl d := by
  have hlen : (pre ++ fmt3 n).length = pre.length + 3 := by rw [List.length_append, fmt3_length n hn]
  refine ⟨fun c hc => (List.mem_append.mp hc).elim (hp c) (fmt3_d1 n hn c),
    List.ne_nil_of_length_pos (by omega), fun lvl d => ?_⟩
  have := (maxLen_bounds lvl d).1
  omega

theorem candidate_dir_legal (lvl : Nat) (pre : List Char) (hp : ∀ c ∈ pre, isD1Char c = true)
    (hl : pre.length ≤ 5) (n : Nat) (hn : n < 1000) :
    checkIsoDirectory lvl (asciiBytes (candidate true pre [] n)) = .ok () :=
  have ⟨h1, h2, h3⟩ := numbered_prefix hp hl hn
  dir_ident_legal lvl (pre ++ fmt3 n) h1 h2 (h3 lvl true)

theorem candidate_file_legal (lvl : Nat) (pre e : List Char) (hp : ∀ c ∈ pre, isD1Char c = true)
    (he : ∀ c ∈ e, isD1Char c = true) (hl : pre.length ≤ 5) (hel : e.length ≤ 3) (n : Nat) (hn : n < 1000) :
    checkIsoFilename lvl (asciiBytes (candidate false pre (e ++ [';', '1']) n)) = .ok () :=
  have ⟨h1, h2, h3⟩ := numbered_prefix hp hl hn
  file_ident_legal lvl (pre ++ fmt3 n) e h1 he (h3 lvl false) hel (.inl h2)

/-- a numbered file identifier `PREFIX%.03d.EXT;1` is accepted by the library at levels 1-3 (`hup` and `hs` are not
needed: the number alone makes the name part non-empty) -/
theorem collision_file_legal (upper : Upper) (hup : ∀ c, upper c ≠ []) (s : List Char) (hs : s ≠ [])
    (lvl : Nat) (hl : 1 ≤ lvl ∧ lvl ≤ 3) (n : Nat) (hn : n < 1000) :
    checkIsoFilename lvl (asciiBytes (candidate false ((mangleFile upper s lvl).1.take 5) (mangleFile upper s lvl).2 n))
      = .ok () := by
  obtain ⟨b, e, hm, hb, he, _, hel, _⟩ := mangleFile_shape upper s lvl (by omega)
  rw [hm]
  exact candidate_file_legal lvl _ e (fun c hc => hb c (List.mem_of_mem_take hc)) he (List.length_take_le ..) hel n hn

/-- a numbered directory identifier is accepted by the library at levels 1-3 -/
theorem collision_dir_legal (upper : Upper) (s : List Char) (lvl : Nat) (hl : 1 ≤ lvl ∧ lvl ≤ 3) (n : Nat)
    (hn : n < 1000) :
    checkIsoDirectory lvl (asciiBytes (candidate true ((mangleDir upper s lvl).take 5) [] n)) = .ok () :=
  candidate_dir_legal lvl _ (fun c hc => truncate_chars upper s lvl true (by omega) c (List.mem_of_mem_take hc))
    (List.length_take_le ..) n hn

theorem offers_legal (upper : Upper) (hup : ∀ c, upper c ≠ []) (name : List Char) (hn : name ≠ []) (lvl : Nat)
    (hl : 1 ≤ lvl ∧ lvl ≤ 3) (d : Bool) :
    ∀ t ∈ offers upper name lvl d,
      (if d then checkIsoDirectory lvl (asciiBytes t) else checkIsoFilename lvl (asciiBytes t)) = .ok () := by
  cases d with
  | true =>
    simp only [offers, List.mem_cons, List.mem_map, List.mem_range, Bool.true_or, if_true]
    rintro t (rfl | ⟨k, hk, rfl⟩)
    · exact mangle_dir_legal upper hup name hn lvl hl
    · exact collision_dir_legal upper name lvl hl k hk
  | false =>
    -- the extension part ends in `;1`, so the first offer is `mangledFileIdent`
    obtain ⟨b, e, hm, _⟩ := mangleFile_shape upper name lvl (by omega)
    have hne : (mangleFile upper name lvl).2 ≠ [] := by simp [hm]
    simp only [offers, List.mem_cons, List.mem_map, List.mem_range, Bool.false_or, decide_eq_true_eq, hne,
      Bool.false_eq_true, if_false]
    rintro t (rfl | ⟨k, hk, rfl⟩)
    · exact mangle_file_legal upper hup name hn lvl hl
    · exact collision_file_legal upper hup name hn lvl hl k hk

/-- **C20 (every identifier the tool hands out is legal)**: at interchange levels 1-3, whatever the source name
(non-empty) and the siblings already present, the identifier `build_iso_path` returns is accepted by the library — as
a directory identifier for directories, as a file identifier for files. -/
theorem isoChild_legal (upper : Upper) (hup : ∀ c, upper c ≠ []) (ch : List (List Char)) (name : List Char)
    (hn : name ≠ []) (lvl : Nat) (hl : 1 ≤ lvl ∧ lvl ≤ 3) (d : Bool) (t : List Char) (ch' : List (List Char))
    (h : isoChild upper ch name lvl d = (some t, ch')) :
    (if d then checkIsoDirectory lvl (asciiBytes t) else checkIsoFilename lvl (asciiBytes t)) = .ok () :=
  offers_legal upper hup name hn lvl hl d t (mem_offers_of_isoChild h)

/-- the whole directory: every identifier handed out is legal -/
theorem isoChildren_legal (upper : Upper) (hup : ∀ c, upper c ≠ []) (lvl : Nat) (hl : 1 ≤ lvl ∧ lvl ≤ 3) (d : Bool)
    (names : List (List Char)) (hn : ∀ n ∈ names, n ≠ []) (ch : List (List Char)) :
    ∀ t ∈ (isoChildren upper lvl d ch names).1.filterMap id,
      (if d then checkIsoDirectory lvl (asciiBytes t) else checkIsoFilename lvl (asciiBytes t)) = .ok () := by
  intro t ht
  obtain ⟨n, hmem, hoff⟩ := (isoChildren_spec upper lvl d names ch).2.2 t ht
  exact offers_legal upper hup n (hn n hmem) lvl hl d t hoff

/-- **C20 (Joliet)**: every component of a path built by `build_joliet_path` has at most 64 characters -/
theorem joliet_component_le (root : List (List Char)) (name : List Char) :
    ∀ c ∈ jolietComponents root name, c.length ≤ 64 := by
  intro c hc
  simp only [jolietComponents, List.mem_append, List.mem_map, List.mem_singleton] at hc
  rcases hc with ⟨x, _, rfl⟩ | rfl <;> simp [List.length_take, Nat.min_le_left]

def witnessA : List Nat := [0x2d, 0xd1, 0x28, 0x2a, 0xaf, 0x76, 0x29, 0x50]
def witnessB : List Nat := [0xd5, 0x28, 0x2d, 0x64, 0x3f, 0x26, 0x41, 0xca]

/-- **C20 (duplicate detection is unsound)**: two different byte strings of equal length and equal murmur3-32;
`-scan-for-duplicates` treated them as one file until it compared contents (finding C20.dedup/hash-collision, repaired).
Kernel-evaluated, no axioms beyond the kernel's Nat arithmetic. -/
theorem mm3_collision : witnessA ≠ witnessB ∧ dedupKey witnessA = dedupKey witnessB := by decide +kernel

theorem dedup_key_not_injective : ¬ Function.Injective dedupKey := fun h => mm3_collision.1 (h mm3_collision.2)

example : mm3 0 [] = 0 := by decide +kernel
example : (isoChildren asciiUpper 1 false [] ["ab.txt".toList, "AB.TXT".toList]).1 =
    [some "AB.TXT;1".toList, some "AB000.TXT;1".toList] := by decide +kernel

end Pycdlib.Tools

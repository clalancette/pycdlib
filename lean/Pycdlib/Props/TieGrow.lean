/-
Props/TieGrow — the rules by which `DirectoryRecord._add_child` grows and `remove_child` shrinks a directory's
`data_length`, as translated from dr.py on every run (Generated/Grow), are the `growLen` / `shrinkLen` of Model/Pack that
the bookkeeping machine (Model/Iso) and its theorems (`space_exact`, `dirs_covered`) are built on.  A changed comparison
(`>` into `>=`), amount or `total_size` formula in dr.py breaks these lemmas.
-/
import Pycdlib.Generated.Grow
import Pycdlib.Model.Pack
import Pycdlib.Proofs.PyCast
namespace Pycdlib

/-- **tie**: the growth rule of `_add_child` -/
theorem dr_grow_tie (bs dataLen ext : Nat) :
    Generated.dr_grow ext bs dataLen = (((growLen bs dataLen ext).1 : Int), (growLen bs dataLen ext).2) := by
  simp only [Generated.dr_grow, growLen, py_cast]
  split <;> rfl

/-- **tie**: the shrink rule of `remove_child` (the packing state always has at least one block) -/
theorem dr_shrink_tie (bs dataLen : Nat) (st : NF) (h1 : 1 ≤ st.1) :
    Generated.dr_shrink st.1 st.2 bs dataLen = (((shrinkLen bs dataLen st).1 : Int), (shrinkLen bs dataLen st).2) := by
  simp only [Generated.dr_shrink, shrinkLen, py_cast, ← Int.natCast_sub h1]
  generalize (st.1 - 1) * bs + st.2 = total
  -- the test is the same in `Nat`, where the subtraction stops at 0: a negative difference is not above `bs` either
  split <;> split
  · exact congrArg (·, true) (by omega)
  · omega
  · omega
  · rfl

end Pycdlib

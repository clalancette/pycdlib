/-
Props/C01Tree — the specification's state after ANY accepted history is a forest in every namespace
(C01 "nothing else appears, nothing is missing" presupposes it; C13 "names are unique within a directory, parents exist").
-/
import Pycdlib.Proofs.SpecInv
import Pycdlib.Props.C02
namespace Pycdlib.Spec

/-- `shape` is a projection of `Entry.face` -/
theorem map_shape_of_map_face {es es' : List Entry} (h : es.map Entry.face = es'.map Entry.face) :
    es.map shape = es'.map shape := by
  have := congrArg (List.map fun (ns, p, _, _, _, isDir, _) => (ns, p, isDir)) h
  rwa [List.map_map, List.map_map] at this

theorem step_tree_inv {s s' : State} {op : Op} (hi : TreeInv s) (h : step s op = some s') : TreeInv s' := by
  cases step_some h with
  | addFp _ hok | addDir _ hok | addSymlink _ hok =>
    -- `mkEntry` gives the entry made for a target that target's namespace and path
    refine treeInv_add ?_ (List.forall_mem_map.mpr hok) hi
    rw [List.map_map]
    exact targets_ns_nodup ..
  | addLink _ _ hok => exact treeInv_add (List.pairwise_singleton _ _) (List.forall_mem_singleton.mpr hok) hi
  -- `gc` only drops blobs: the entries of `s.gc` are those of `s` by definition, so `TreeInv` does not see it
  | rmFile => exact treeInv_filter (fun _ _ _ d _ _ _ hd => by simp [hd]) hi
  | rmFileSymlink hf hn => exact treeInv_remove hi hf (by simp [hn])
  | rmLink hf hn => exact treeInv_remove hi hf hn
  | rmDir _ hok =>
    refine treeInv_filter (fun x hx _ d _ hdns hdp _ => ?_) hi
    simp only [Bool.not_eq_true', List.any_eq_false, decide_eq_true_eq]
    rintro ⟨ns, p⟩ ht ⟨rfl, rfl⟩
    -- `d` would be a removed directory with the child `x`: but removed directories have no children
    refine List.any_eq_false.mp (hok _ ht).2.2 x hx (decide_eq_true ⟨hdns.symm, ?_, hdp.symm⟩)
    have := List.length_pos_iff.mpr (hi.2 x hx).1
    rw [hdp, List.length_dropLast]; omega
  | setHidden =>
    refine treeInv_congr (es := s.entries) ?_ hi
    rw [List.map_map]
    exact List.map_congr_left fun x _ => by simp only [Function.comp]; split <;> rfl
  | reopen => exact treeInv_congr (map_shape_of_map_face (reopen_keeps_names s)).symm hi

/-- **C01 / C13 (specification side)**: starting from the empty image, whatever operations the specification accepts
(`reopen` among them), no (namespace, path) occurs twice and every entry hangs below a directory entry of its own
namespace. -/
theorem history_is_forest (rr : Bool) (ops : List Op) (s' : State) (h : run { rr := rr } ops = some s') : TreeInv s' :=
  run_induction h (treeInv_init rr) fun _ _ _ _ => step_tree_inv

/-- consequence in the form the checks use: a path resolves to at most one entry -/
theorem entry_unique (rr : Bool) (ops : List Op) (s' : State) (h : run { rr := rr } ops = some s') (a b : Entry)
    (ha : a ∈ s'.entries) (hb : b ∈ s'.entries) (hk : a.ns = b.ns ∧ a.path = b.path) : a = b :=
  key_unique (history_is_forest rr ops s' h).1 ha hb hk

/-- accepted: a directory, a file below it, a link, a reopen; refused: then removing the directory -/
example : (run { rr := true } [.addDir (some [[68]]) [100] (some [[100]]) none 0o040555,
    .addFp { cid := 1, len := 0, iso := some [[68], [70]], rrName := [102], joliet := some [[100], [102]] },
    .addLink .iso [[68], [70]] .joliet [[108]] [], .reopen, .rmDir none (some [[100]]) none]).isSome = false ∧
    (run { rr := true } [.addDir (some [[68]]) [100] (some [[100]]) none 0o040555,
    .addFp { cid := 1, len := 0, iso := some [[68], [70]], rrName := [102], joliet := some [[100], [102]] },
    .addLink .iso [[68], [70]] .joliet [[108]] [], .reopen]).isSome = true := by decide +kernel

end Pycdlib.Spec

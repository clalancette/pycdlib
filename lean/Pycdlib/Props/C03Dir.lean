/-
Props/C03Dir — a directory extent reads back as exactly the records that were written, for EVERY list of records, and
composed with the record codec (`decDR_encDR`) the fields come back too.  This is the directory-level step of
`Reader ∘ Master = abs` (C01 / C03 / C05): nothing is lost at a block boundary, the zero gap is never taken for a record,
trailing reserved blocks add nothing.
-/
import Pycdlib.Model.DirBytes
import Pycdlib.Props.C03
namespace Pycdlib.DirBytes
open Pycdlib

theorem parse_zeros (bs fuel off n : Nat) : parse bs fuel off (zeros n) = [] := by
  induction fuel generalizing off n with
  | zero => rfl
  | succ f ih =>
    cases n with
    | zero => rfl
    | succ m => rw [zeros_succ, parse, if_pos rfl, ← zeros_succ, drop_zeros]; exact ih _ _

theorem render_length_pos (bs off : Nat) (recs : List Bytes) (h : recs ≠ []) (hr : ∀ r ∈ recs, 1 ≤ r.length) :
    1 ≤ (render bs off recs).length := by
  cases recs with
  | nil => exact absurd rfl h
  | cons r rs =>
    have := hr r List.mem_cons_self
    simp only [render]
    split <;> simp only [List.length_append] <;> omega

theorem RecOk.length_bounds {bs : Nat} {r : Bytes} (h : RecOk bs r) : 1 ≤ r.length ∧ r.length ≤ bs := by
  obtain ⟨l, t, rfl, -, h⟩ := h
  exact ⟨Nat.le_add_left 1 _, h⟩

/-- the reader's position for the writer's `off`: a full block (`off = bs`) is position 0 of the next -/
def rpos (bs off : Nat) : Nat := if off ≥ bs then 0 else off

theorem parse_record {bs : Nat} {r : Bytes} (hr : RecOk bs r) (fuel off : Nat) (rest : Bytes) :
    parse bs (fuel + 1) off (r ++ rest) = r :: parse bs fuel (rpos bs (off + r.length)) rest := by
  obtain ⟨l, t, rfl, hl, -⟩ := hr
  have hl0 : l ≠ 0 := by rintro rfl; simp at hl
  rw [List.cons_append, parse, if_neg hl0, hl, ← List.cons_append, List.take_left, List.drop_left, rpos]

theorem parse_gap {bs off : Nat} (h : off < bs) (fuel : Nat) (rest : Bytes) :
    parse bs (fuel + 1) off (zeros (bs - off) ++ rest) = parse bs fuel 0 rest := by
  obtain ⟨n, hn⟩ := Nat.exists_eq_add_one_of_ne_zero (by omega : bs - off ≠ 0)
  rw [hn, zeros_succ, List.cons_append, parse, if_pos rfl, ← List.cons_append, ← zeros_succ,
    List.drop_left' (by rw [zeros_length, hn])]

/-- **round trip of one directory extent** (any starting position inside the block, any trailing zeros) -/
theorem parse_render (bs : Nat) (recs : List Bytes) (hok : ∀ r ∈ recs, RecOk bs r) (tail : Nat) :
    ∀ (off fuel : Nat), off ≤ bs → (render bs off recs).length ≤ fuel →
      parse bs fuel (rpos bs off) (render bs off recs ++ zeros tail) = recs := by
  induction recs with
  | nil => intro off fuel _ _; rw [render, zeros_append]; exact parse_zeros _ _ _ _
  | cons r rs ih =>
    intro off fuel hoff hfuel
    have hr := hok r List.mem_cons_self
    obtain ⟨h1, hle⟩ := hr.length_bounds
    -- the record in front of the reader standing at `o`, the writer going on from `n = o + r.length`
    have key : ∀ o n f, o + r.length = n → n ≤ bs → r.length + (render bs n rs).length ≤ f →
        parse bs f o (r ++ (render bs n rs ++ zeros tail)) = r :: rs := by
      intro o n f hn hnb hf
      obtain ⟨g, rfl⟩ := Nat.exists_eq_add_one_of_ne_zero (by omega : f ≠ 0)
      rw [parse_record hr, hn, ih (fun x hx => hok x (List.mem_cons_of_mem _ hx)) n g hnb (by omega)]
    by_cases hfit : off + r.length > bs
    · -- the record starts the next block: the reader first skips the zero gap, if there is one
      simp only [render, hfit, if_true, List.length_append, zeros_length, List.append_assoc] at hfuel ⊢
      rcases Nat.lt_or_eq_of_le hoff with hlt | rfl
      · obtain ⟨g, rfl⟩ := Nat.exists_eq_add_one_of_ne_zero (by omega : fuel ≠ 0)
        rw [rpos, if_neg (by omega), parse_gap hlt]
        exact key 0 _ g (Nat.zero_add _) hle (by omega)
      · rw [rpos, if_pos (Nat.le_refl _), Nat.sub_self]
        exact key 0 _ fuel (Nat.zero_add _) hle (by omega)
    · simp only [render, hfit, if_false, List.length_append, List.append_assoc] at hfuel ⊢
      rw [rpos, if_neg (by omega)]
      exact key off _ fuel rfl (by omega) (by omega)

/-- **a directory extent reads back as the records written**, whatever the number of reserved blocks behind them
(`hbs` is not needed) -/
theorem parse_renderDir (bs : Nat) (hbs : 1 ≤ bs) (recs : List Bytes) (extra : Nat) (hok : ∀ r ∈ recs, RecOk bs r) :
    parse bs (renderDir bs recs extra).length 0 (renderDir bs recs extra) = recs := by
  have := parse_render bs recs hok (extra * bs) 0 (renderDir bs recs extra).length (Nat.zero_le _)
    (by rw [renderDir, List.length_append]; omega)
  rwa [rpos, ite_self] at this

/-- an encoded directory record is what the reader relies on -/
theorem encDR_recOk (r : DRF) (h : r.wf) : RecOk 2048 (encDR r) := by
  obtain ⟨-, -, hdate, -, -, -, -, -, h255⟩ := h
  have hlen := encDR_length r hdate
  exact ⟨u8 r.len, _, rfl, by rw [hlen, u8_toNat_of_lt (Nat.lt_succ_of_le h255)], by omega⟩

/-- **directory contents round trip**: the records pycdlib writes for a directory, read back by the ECMA-119 reader and
decoded, are the fields that were encoded (the system use area with its pad byte), in order, nothing else -/
theorem dir_roundtrip (recs : List DRF) (extra : Nat) (h : ∀ r ∈ recs, r.wf) :
    (parse 2048 (renderDir 2048 (recs.map encDR) extra).length 0 (renderDir 2048 (recs.map encDR) extra)).mapM decDR
      = some (recs.map fun r => { r with su := r.su ++ zeros (r.bodyLen % 2) }) := by
  rw [parse_renderDir 2048 (by decide) (recs.map encDR) extra]
  · induction recs with
    | nil => rfl
    | cons r rs ih =>
      rw [List.map_cons, List.mapM_cons, decDR_encDR r (h r List.mem_cons_self),
        ih fun x hx => h x (List.mem_cons_of_mem _ hx)]
      rfl
  · intro b hb
    obtain ⟨r, hr, rfl⟩ := List.mem_map.mp hb
    exact encDR_recOk r (h r hr)

/-- three records of 6 bytes in blocks of 16 (the third starts the second block), one spare block -/
example : parse 16 64 0 (renderDir 16 [[6,1,1,1,1,1], [6,2,2,2,2,2], [6,3,3,3,3,3]] 1)
    = [[6,1,1,1,1,1], [6,2,2,2,2,2], [6,3,3,3,3,3]] := by decide

/-- the same 18 bytes of records fill two blocks: 4 zero bytes of gap behind the second, 10 behind the third -/
example : (renderDir 16 [[6,1,1,1,1,1], [6,2,2,2,2,2], [6,3,3,3,3,3]] 0).length = 32 := by decide

end Pycdlib.DirBytes

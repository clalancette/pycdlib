/-
Props/C02 — editing an existing image: what a write→open generation may change in the specification.  Only zero-length
content is re-identified (see Model/Spec `reopenState`); no name changes (`reopen_keeps_names`).  Together with the step
lemmas of Props/C01/C07 this makes `Spec.run` over several generations the statement the check compares pycdlib with:
original content plus exactly the edits.
-/
import Pycdlib.Props.C07   -- the C02 check audits `addLink_shares` as well
namespace Pycdlib.Spec

/-- the part of an entry a generation must not touch -/
def Entry.face (e : Entry) : NS × Path × Bool × Bytes × Nat × Bool × Bool :=
  (e.ns, e.path, e.hidden, e.rrName, e.mode, e.node = .dir, match e.node with | .symlink _ => true | _ => false)

theorem Entry.face_renumber {e : Entry} {b : Nat} (hn : e.node = .file b) (k : Nat) :
    Entry.face { e with node := .file k } = e.face := by
  simp [Entry.face, hn]

theorem reopenStep_face (s : State) (acc : List Entry × List Blob × Nat × List (Nat × Nat)) (e : Entry) :
    (reopenStep s acc e).1.map Entry.face = acc.1.map Entry.face ++ [e.face] := by
  unfold reopenStep
  split
  next b hn =>
    -- every branch appends `e`, at most with another content id
    repeat' split
    all_goals simp only [List.map_append, List.map_cons, List.map_nil, Entry.face_renumber hn]
  next => simp only [List.map_append, List.map_cons, List.map_nil]

theorem reopen_fold_faces (s : State) (l : List Entry) (acc : List Entry × List Blob × Nat × List (Nat × Nat)) :
    (l.foldl (reopenStep s) acc).1.map Entry.face = acc.1.map Entry.face ++ l.map Entry.face := by
  induction l generalizing acc with
  | nil => simp
  | cons e es ih => rw [List.foldl_cons, ih, reopenStep_face, List.append_assoc]; rfl

/-- **a generation changes no name**: every namespace keeps exactly its paths, kinds, hidden flags, Rock Ridge
names and modes -/
theorem reopen_keeps_names (s : State) :
    (reopenState s).entries.map Entry.face = s.entries.map Entry.face := by
  unfold reopenState
  simpa using reopen_fold_faces s s.entries ([], [], s.next, [])

/-- two empty files linked in ISO and Joliet, reopened: names stay, contents become independent -/
example :
    ((run { rr := false } [.addFp { cid := 1, len := 0, iso := some [[65]], joliet := some [[97]] }, .reopen,
                           .rmFile .joliet [[97]]]).map fun s => s.entries.map (·.path)) = some [[[65]]] := by
  decide +kernel

end Pycdlib.Spec

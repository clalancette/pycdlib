/-
Props/C16 — reading files: the file-like object over the shared image file behaves, for every sequence of
read / readall / readinto / seek / tell / close calls on any number of open files and every interleaving with
other uses of the shared file object (`clobber`), exactly like independent in-memory streams of each file's
own bytes.  In particular no read returns bytes outside the file.
-/
import Pycdlib.Proofs.Stream
namespace Pycdlib

theorem step_refines (w : World) (hw : WFWorld w) (op : SOp) :
    (stepW w op).2 = (stepSpec (absW w) op).2 ∧
    absW (stepW w op).1 = (stepSpec (absW w) op).1 ∧
    WFWorld (stepW w op).1 := by
  cases op with
  | clobber p => exact ⟨rfl, rfl, hw⟩
  | call id c =>
    simp only [stepW, stepSpec, absW_get]
    cases hs : w.streams[id]? with
    | none => exact ⟨rfl, rfl, hw⟩
    | some s =>
      have hin : s.start + s.len ≤ w.img.length := hw s (List.mem_of_getElem? hs)
      obtain ⟨h1, h2, h3, h4⟩ := call_refines w.img w.pos s c hin
      simp only [Option.map_some]
      refine ⟨h1, ?_, ?_⟩
      · unfold absW; simp only [List.map_set]; rw [h2]
      · intro x hx
        rcases List.mem_or_eq_of_mem_set hx with h | rfl
        · exact hw x h
        · rw [h3, h4]; exact hin

/-- **C16**: every history of stream operations, interleaved arbitrarily with other uses of the shared
file object, produces exactly the outputs of independent in-memory streams. -/
theorem stream_refines (w : World) (hw : WFWorld w) (ops : List SOp) :
    runW w ops = runSpec (absW w) ops := by
  induction ops generalizing w with
  | nil => rfl
  | cons op ops ih =>
    obtain ⟨h1, h2, h3⟩ := step_refines w hw op
    simp only [runW, runSpec]
    rw [h1, ih _ h3, h2]

/-- the specification never returns bytes beyond the end of the file -/
theorem spec_read_within (s : SpecSt) (k : Nat) :
    s.pos + ((s.content.drop s.pos).take k).length ≤ max s.pos s.content.length := by
  simp only [List.length_take, List.length_drop]; omega

theorem copyData_eq_take (bs : Nat) (hbs : 0 < bs) (fuel left : Nat) (src : Bytes) (hf : left ≤ fuel) :
    copyData fuel left bs src = src.take left := by
  induction fuel generalizing left src with
  | zero =>
    obtain rfl : left = 0 := by omega
    rfl
  | succ n ih =>
    rw [copyData]
    split
    · subst left; rfl
    · dsimp only
      have hl : (src.take (min bs left)).length = min (min bs left) src.length := List.length_take
      by_cases hshort : src.length < min bs left
      · -- a short read: the source is exhausted
        rw [if_pos (by omega), Nat.sub_self, ih 0 _ (Nat.zero_le n), List.take_zero, List.append_nil,
          List.take_of_length_le (by omega), List.take_of_length_le (by omega)]
      · rw [if_neg (by omega), hl, ih _ _ (by omega), ← List.take_add]
        congr 1
        omega

/-- **C16 (extraction)**: copying with any positive block size delivers exactly the first `left` bytes (`hlen` is not
needed: `copyData_eq_take` also covers a source that ends early) -/
theorem copy_exact (left bs : Nat) (src : Bytes) (hbs : 0 < bs) (hlen : left ≤ src.length) (fuel : Nat)
    (hf : left ≤ fuel) : copyData fuel left bs src = src.take left :=
  copyData_eq_take bs hbs fuel left src hf

/-- a refused call changes nothing (in the model of the implementation): every branch of `streamCall` either answers
something else or returns what it was given -/
theorem refused_unchanged (img : Bytes) (pos : Nat) (s : StreamSt) (c : StreamCall)
    (h : (streamCall img pos s c).2.2 = .refused) :
    (streamCall img pos s c).1 = s ∧ (streamCall img pos s c).2.1 = pos := by
  revert h
  unfold streamCall
  repeat' split
  all_goals simp

/-- two streams on one image; an interfering seek between two reads of stream 0 changes nothing -/
example :
    runW { img := [1, 2, 3, 4, 5, 6, 7, 8], pos := 0,
           streams := [⟨1, 3, 0, true⟩, ⟨4, 4, 0, true⟩] }
      [.call 0 (.read (some 2)), .clobber 6, .call 1 (.read (some 1)), .call 0 (.readinto 5), .call 0 .tell,
       .call 1 (.seek (-1) 2), .call 1 .readall]
    = [.bytes [2, 3], .unit, .bytes [5], .bytes [4], .num 3, .num 3, .bytes [8]] := by decide +kernel

end Pycdlib

/-
Props/C07 — hard-link semantics of the specification's blob store.
  * `addLink_shares`: a new link refers to the same blob as the old name (same bytes, stored once) and changes
    no existing entry;
  * `rmLink_keeps_blob_iff`: after removing one link the blob is still there iff another name or an El Torito
    entry refers to it — released exactly at the last reference;
  * `rmFile_exact`, `rmFile_releases`, `rmLink_local`, `gc_referenced` (Props/C01).
-/
import Pycdlib.Props.C01
namespace Pycdlib.Spec

theorem addLink_shares (s s' : State) (ons nns : NS) (o n : Path) (rr : Bytes)
    (h : step s (.addLink ons o nns n rr) = some s') :
    ∃ e b, s.find ons o = some e ∧ e.node = .file b ∧
      (∀ x ∈ s.entries, x ∈ s'.entries) ∧
      (∃ e' ∈ s'.entries, e'.ns = nns ∧ e'.path = n ∧ e'.node = .file b) ∧
      s'.blobs = s.blobs := by
  cases step_some h with
  | addLink hf hn =>
    exact ⟨_, _, hf, hn, fun x hx => List.mem_append_left _ hx,
      ⟨_, List.mem_append_right _ (List.mem_singleton.mpr rfl), rfl, rfl, rfl⟩, rfl⟩

/-- `hf` and `hb` are not needed: `b` enters through `hid` alone -/
theorem rmLink_keeps_blob_iff (s s' : State) (ns : NS) (p : Path) (e : Entry) (b : Nat) (bl : Blob)
    (hf : s.find ns p = some e) (hb : e.node = .file b) (hbl : bl ∈ s.blobs) (hid : bl.id = b)
    (h : step s (.rmLink ns p) = some s') :
    bl ∈ s'.blobs ↔ s'.refs b > 0 := by
  cases step_some h with
  | rmLink =>
    rw [mem_gc_blobs, hid]
    exact and_iff_right hbl

example :
    ((run { rr := false } [.addFp { cid := 1, len := 3, iso := some [[65]] }, .addLink .iso [[65]] .joliet [[97]] [],
                           .rmLink .iso [[65]]]).map (·.blobs.length),
     (run { rr := false } [.addFp { cid := 1, len := 3, iso := some [[65]] }, .addLink .iso [[65]] .joliet [[97]] [],
                           .rmLink .iso [[65]], .rmLink .joliet [[97]]]).map (·.blobs.length)) = (some 1, some 0) := by
  decide +kernel

end Pycdlib.Spec

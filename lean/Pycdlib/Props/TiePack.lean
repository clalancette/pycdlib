/-
Props/TiePack — `DirectoryRecord._recalculate_extents_and_offsets` as translated from dr.py on every run
(Generated/Pack) is the next-fit model the packing theorems of Proofs/Pack (C03, C04) are about: the returned
(number of extents, offset in the last one) is `nfFold`, and what is stored in each child (`extents_to_here`,
`offset_to_here`) is `nfScan`.  A changed comparison, increment or initial state in dr.py breaks this lemma.
-/
import Pycdlib.Generated.Pack
import Pycdlib.Model.Pack
import Pycdlib.Proofs.PyCast
namespace Pycdlib
open Pycdlib.PyOps

def castNF (p : NF) : Int × Int := ((p.1 : Int), (p.2 : Int))

theorem recalc_fold (bs : Nat) (F : (Int × Int) × List (Int × Int) → Int → (Int × Int) × List (Int × Int))
    (hF : ∀ (st : NF) (out : List (Int × Int)) (l : Nat),
      F (castNF st, out) l = (castNF (nfStep bs st l), out ++ [castNF (nfStep bs st l)])) (ls : List Nat) :
    ∀ (st : NF) (out : List (Int × Int)), (ls.map (fun n : Nat => (n : Int))).foldl F (castNF st, out)
      = (castNF (nfFold bs st ls), out ++ (nfScan bs st ls).map castNF) := by
  induction ls with
  | nil => intro st out; simp [nfFold, nfScan]
  | cons l ls ih =>
    intro st out
    rw [List.map_cons, List.foldl_cons, hF, ih]
    simp [nfFold, nfScan]

/-- **tie**: the translated method equals the model (result and per-child cache) -/
theorem dr_recalc_tie (bs : Nat) (st : NF) (ls : List Nat) :
    Generated.dr_recalc st.1 st.2 (ls.map fun n : Nat => (n : Int)) bs =
      (castNF (nfFold bs st ls), (nfScan bs st ls).map castNF) := by
  refine (recalc_fold bs _ ?_ ls st []).trans (by rw [List.nil_append])
  -- what is left is the loop body as regenerated from dr.py, against `nfStep`
  intro ⟨e, o⟩ out l
  simp only [castNF, nfStep, py_cast]
  split <;> simp

/-- a recalculation from scratch starts with one extent and offset 0, as `nextFit` does -/
theorem dr_recalc_init_tie : Generated.dr_recalc_init = castNF (1, 0) := rfl

end Pycdlib

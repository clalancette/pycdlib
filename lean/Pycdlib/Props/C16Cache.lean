/-
Props/C16Cache — the lookup caches are transparent (C06: queries in between change nothing; C16: a read does not depend
on earlier reads or queries on the same object): in every history whose edits all clear the cache, from a coherent
cache, each lookup returns what the same history returns without a cache.  One edit that does not clear breaks this
(`stale_without_clear`: the shape of the seeded changes C01-m3, C02-m1, C16-n1).
-/
import Pycdlib.Model.Cache
namespace Pycdlib.Cache

theorem cached_mem {c : List (Nat × Nat)} {p r : Nat} (h : cached c p = some r) : (p, r) ∈ c := by
  obtain ⟨⟨a, b⟩, hf, rfl⟩ := Option.map_eq_some_iff.mp h
  obtain rfl : a = p := of_decide_eq_true (List.find?_some hf :)
  exact List.mem_of_find?_eq_some hf

theorem step_coherent (s : St) (op : Op) (h : Coherent s) (hc : ∀ f c, op = .edit f c → c = true) :
    Coherent (step s op).1 := by
  cases op with
  | lookup p =>
    simp only [step]
    cases cached s.cache p with
    | some r => exact h
    | none =>
      cases ht : s.tree p with
      | none => exact h
      | some r =>
        intro q r' hm
        rcases List.mem_cons.mp hm with heq | hm
        · cases heq; exact ht
        · exact h q r' hm
  | edit f c =>
    obtain rfl : c = true := hc f c rfl
    exact nofun
  | forget keep => exact fun q r hm => h q r (List.mem_filter.mp hm).1

theorem step_output (s : St) (op : Op) (h : Coherent s) :
    (step s op).2 = (stepPlain s.tree op).2 ∧ (step s op).1.tree = (stepPlain s.tree op).1 := by
  cases op with
  | lookup p =>
    simp only [step, stepPlain]
    cases hcp : cached s.cache p with
    | some r => exact ⟨(h p r (cached_mem hcp)).symm, rfl⟩
    | none => cases s.tree p <;> exact ⟨rfl, rfl⟩
  | edit | forget => exact ⟨rfl, rfl⟩

theorem allClear_cons {op : Op} {ops : List Op} :
    AllClear (op :: ops) ↔ (∀ f c, op = .edit f c → c = true) ∧ AllClear ops := by
  cases op <;> simp [AllClear]

theorem allClear_append {a b : List Op} : AllClear (a ++ b) ↔ AllClear a ∧ AllClear b := by
  induction a with
  | nil => simp [AllClear]
  | cons op a ih => simp only [List.cons_append, allClear_cons, ih, and_assoc]

/-- **the caches are transparent** -/
theorem cache_transparent (ops : List Op) : ∀ (s : St), Coherent s → AllClear ops →
    (run s ops).2 = (runPlain s.tree ops).2 ∧ (run s ops).1.tree = (runPlain s.tree ops).1 := by
  induction ops with
  | nil => intro s _ _; exact ⟨rfl, rfl⟩
  | cons op ops ih =>
    intro s hs hall
    obtain ⟨hc, hall'⟩ := allClear_cons.mp hall
    obtain ⟨ho, ht⟩ := step_output s op hs
    have := ih (step s op).1 (step_coherent s op hs hc) hall'
    simp only [run, runPlain]
    rw [ht] at this
    exact ⟨by rw [ho, this.1], this.2⟩

/-- a new object (or one whose cache was just cleared) starts coherent -/
theorem empty_coherent (t : Tree) : Coherent { tree := t, cache := [] } := by
  intro p r h; cases h

theorem runPlain_append (t : Tree) (a b : List Op) :
    (runPlain t (a ++ b)).2 = (runPlain t a).2 ++ (runPlain (runPlain t a).1 b).2 := by
  induction a generalizing t with
  | nil => rfl
  | cons op a ih =>
    simp only [List.cons_append, runPlain]
    rw [ih]

/-- **evictions and foreign clears never change an answer**: with an eviction (LRU, or `cache_clear()` issued through
another PyCdlib object — the table is shared) inserted anywhere in a history, every other step answers as before. -/
theorem forget_harmless (s : St) (hs : Coherent s) (pre post : List Op) (k : Nat × Nat → Bool)
    (h : AllClear (pre ++ post)) :
    (run s (pre ++ .forget k :: post)).2 = (runPlain s.tree pre).2 ++ none :: (runPlain (runPlain s.tree pre).1 post).2 ∧
    (run s (pre ++ post)).2 = (runPlain s.tree pre).2 ++ (runPlain (runPlain s.tree pre).1 post).2 := by
  -- `AllClear (.forget k :: post)` is `AllClear post` by definition
  have hk : AllClear (pre ++ .forget k :: post) := allClear_append.mpr (allClear_append.mp h :)
  refine ⟨?_, ?_⟩
  · rw [(cache_transparent _ s hs hk).1, runPlain_append]
    rfl
  · rw [(cache_transparent _ s hs h).1, runPlain_append]

/-- **the hypothesis is needed**: name 7 leads to record 1; it is looked up, removed by an edit that does not clear,
and looked up again — the cached run still answers record 1, the tree has no such name any more. -/
theorem stale_without_clear :
    let t : Tree := fun p => if p = 7 then some 1 else none
    let ops := [Op.lookup 7, Op.edit (fun _ => fun _ => none) false, Op.lookup 7]
    (run { tree := t, cache := [] } ops).2 = [some 1, none, some 1] ∧
    (runPlain t ops).2 = [some 1, none, none] := by
  refine ⟨?_, ?_⟩ <;> simp [run, runPlain, step, stepPlain, cached]

example :
    let t : Tree := fun p => if p = 7 then some 1 else none
    let ops := [Op.lookup 7, Op.forget (fun _ => false), Op.lookup 7, Op.edit (fun _ => fun p => if p = 7 then some 2 else none) true, Op.lookup 7]
    AllClear ops ∧ (run { tree := t, cache := [] } ops).2 = [some 1, none, some 1, none, some 2] := by
  refine ⟨by simp [AllClear], ?_⟩
  simp [run, step, cached]

end Pycdlib.Cache

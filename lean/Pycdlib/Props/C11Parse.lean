/-
Props/C11Parse — a boot catalog written by the library is read back as written, whatever follows it on the image
(`catalog_parse_roundtrip`): also when it fills its 2048 bytes exactly (31 sections) and has no terminating empty entry.
Without the end-of-sector rule the 32 bytes after such a catalog would be read as one more entry
(`without_rule_next_sector_decides`): the defect repaired by "fix: a boot catalog that fills its sector ends with the
sector".
-/
import Pycdlib.Model.BootParse
import Pycdlib.Props.C11
namespace Pycdlib.Boot

/-- field ranges of an entry the library can have recorded -/
def EntryOk (e : Entry) : Prop :=
  e.media ≤ 4 ∧ e.loadSeg < 65536 ∧ e.count < 65536 ∧ e.rba < 2 ^ 32

theorem parseEntry_entryBytes (e : Entry) (h : EntryOk e) : parseEntry (entryBytes e) = some e := by
  obtain ⟨h0, h1, h2, h4, h6, h8⟩ := entry_fields e h.2.1 h.2.2.1 h.2.2.2
  have h5 : (entryBytes e).getD 5 0 = 0 := rfl
  simp only [parseEntry, rd16, rd32, h0, h1, h2, h4, h5, h6, h8]
  obtain ⟨b, m, sg, sy, c, r⟩ := e
  have hm : ¬ m > 4 := Nat.not_lt.mpr h.1
  cases b <;> simp [hm]

theorem parseValidation_validationBytes (p : Nat) (hp : p = 0 ∨ p = 1 ∨ p = 2 ∨ p = 0xef) :
    parseValidation (validationBytes p) = some p := by
  obtain ⟨hsum, h30, h31, -⟩ := validation_sum p (by omega)
  have h0 : (validationBytes p).getD 0 0 = 1 := rfl
  have h1 : (validationBytes p).getD 1 0 = p := rfl
  have hpl : [0, 1, 2, 0xef].contains p = true := by rcases hp with rfl | rfl | rfl | rfl <;> rfl
  simp only [parseValidation, h0, h1, h30, h31, hsum, hpl]
  rfl

theorem waiting_append_singleton (acc : List Sec) (x : Sec) :
    waiting (acc ++ [x]) = decide (x.entries.length < x.declared) := by
  simp [waiting]

theorem step_header (acc : List Sec) (last : Bool) (p : Nat) :
    stepEntry acc [] (headerBytes last p) = .more (acc ++ [⟨if last then 0x91 else 0x90, p, 1, []⟩]) [] := by
  cases last <;> simp [stepEntry, headerBytes, le16n, rd16]

theorem step_entry (acc : List Sec) (ind p : Nat) (e : Entry) (h : EntryOk e) :
    stepEntry (acc ++ [⟨ind, p, 1, []⟩]) [] (entryBytes e) = .more (acc ++ [⟨ind, p, 1, [e]⟩]) [] := by
  have hf : (entryBytes e).getD 0 0 = if e.bootable then 0x88 else 0 := rfl
  simp only [stepEntry, waiting_append_singleton, parseEntry_entryBytes e h, hf]
  cases e.bootable <;> simp [addToLast]

def zero32 : List Nat := List.replicate 32 0

theorem stepEntry_zero32 (secs : List Sec) (alone : List Entry) (h : waiting secs = false) :
    stepEntry secs alone zero32 = .done := by
  simp [stepEntry, zero32, h]

theorem step_zero (acc : List Sec) (h : waiting acc = false) : ∃ u, stepEntry acc [] zero32 = u ∧ (match u with | .done => True | _ => False) :=
  ⟨.done, stepEntry_zero32 acc [] h, trivial⟩

theorem parseRest_more {pl : Nat} {ini : Entry} {c : List Nat} {cs : List (List Nat)} {n : Nat}
    {secs secs' : List Sec} {alone alone' : List Entry} (hn : n ≠ 64)
    (h : stepEntry secs alone c = .more secs' alone') :
    parseRest pl ini (c :: cs) n secs alone = parseRest pl ini cs (n + 1) secs' alone' := by
  rw [parseRest, if_neg (fun h64 => hn h64.1), h]

theorem parseRest_end {pl : Nat} {ini : Entry} {l : List (List Nat)} {n : Nat} {secs : List Sec} {alone : List Entry}
    (hw : waiting secs = false) (hl : n = 64 ∨ ∃ cs, l = zero32 :: cs) :
    parseRest pl ini l n secs alone = if finishOk secs then some ⟨pl, ini, secs, alone⟩ else none := by
  by_cases hn : n = 64
  · cases l <;> simp [parseRest, hn, hw]
  · obtain ⟨cs, rfl⟩ := hl.resolve_left hn
    rw [parseRest, if_neg (fun h64 => hn h64.1), stepEntry_zero32 secs alone hw]

/-! As `sectionsBytes_cons`: the flag of the last section as a parameter. -/

theorem secsOf_cons (x : Nat × Entry) (rest : List (Nat × Entry)) :
    secsOf (x :: rest) = ⟨if rest.isEmpty then 0x91 else 0x90, x.1, 1, [x.2]⟩ :: secsOf rest := by
  cases rest <;> rfl

theorem finishOk_cons (x : Sec) (l : List Sec) :
    finishOk (x :: l) = (x.declared == x.entries.length && (l.isEmpty || x.indicator == 0x90) && finishOk l) := by
  cases l <;> simp [finishOk]

def secChunks : List (Nat × Entry) → List (List Nat)
  | [] => []
  | (p, e) :: rest => headerBytes rest.isEmpty p :: entryBytes e :: secChunks rest

theorem secChunks_flatten (s : List (Nat × Entry)) : (secChunks s).flatten = sectionsBytes s := by
  induction s with
  | nil => rfl
  | cons x xs ih => simp only [secChunks, sectionsBytes_cons, List.flatten_cons, ih, List.append_assoc]

theorem secChunks_len32 (s : List (Nat × Entry)) : ∀ c ∈ secChunks s, c.length = 32 := by
  induction s with
  | nil => nofun
  | cons x xs ih =>
    simp only [secChunks, List.forall_mem_cons]
    exact ⟨headerBytes_length _ _, entryBytes_length _, ih⟩

/-- complete sections with intermediate headers: what has been read before the current position -/
def AccOk (acc : List Sec) : Prop := ∀ x ∈ acc, x.declared = x.entries.length ∧ x.indicator = 0x90

theorem finishOk_append (acc l : List Sec) (h : AccOk acc) : finishOk (acc ++ l) = finishOk l := by
  induction acc with
  | nil => rfl
  | cons x xs ih =>
    obtain ⟨hx, hxs⟩ := List.forall_mem_cons.mp h
    rw [List.cons_append, finishOk_cons, ih hxs]
    simp [hx.1, hx.2]

theorem finishOk_secsOf (s : List (Nat × Entry)) : finishOk (secsOf s) = true := by
  induction s with
  | nil => rfl
  | cons x xs ih =>
    rw [secsOf_cons, finishOk_cons, ih]
    cases xs <;> simp [secsOf_cons, secsOf]

theorem waiting_acc_secsOf (acc : List Sec) (s : List (Nat × Entry)) (h : waiting acc = false) :
    waiting (acc ++ secsOf s) = false := by
  induction s generalizing acc with
  | nil => simpa [secsOf] using h
  | cons x xs ih =>
    rw [secsOf_cons, List.append_cons]
    exact ih _ (by simp [waiting_append_singleton])

/-- `n` entries have been read; the remaining sections fit the sector -/
theorem parseRest_sections (pl : Nat) (ini : Entry) (s : List (Nat × Entry)) (acc : List Sec) (n : Nat)
    (tail : List (List Nat)) (hok : ∀ pe ∈ s, EntryOk pe.2) (hn : n + 2 * s.length ≤ 64) :
    parseRest pl ini (secChunks s ++ tail) n acc [] = parseRest pl ini tail (n + 2 * s.length) (acc ++ secsOf s) [] := by
  induction s generalizing acc n with
  | nil => simp [secChunks, secsOf]
  | cons x xs ih =>
    obtain ⟨hx, hxs⟩ := List.forall_mem_cons.mp hok
    simp only [List.length_cons] at hn
    rw [secChunks, List.cons_append, List.cons_append,
      parseRest_more (by omega) (step_header acc _ x.1),
      parseRest_more (by omega) (step_entry acc _ x.1 x.2 hx),
      ih _ _ hxs (by omega),
      secsOf_cons, List.append_cons acc _ (secsOf xs), List.length_cons]
    congr 1
    omega

theorem toChunks_flatten (cs : List (List Nat)) (h : ∀ c ∈ cs, c.length = 32) (rest : List Nat) (fuel : Nat)
    (hf : (cs.flatten ++ rest).length ≤ fuel) : ∃ t, toChunks fuel (cs.flatten ++ rest) = cs ++ t := by
  induction cs generalizing fuel with
  | nil => exact ⟨_, rfl⟩
  | cons c cs ih =>
    obtain ⟨hc, hcs⟩ := List.forall_mem_cons.mp h
    rw [List.flatten_cons, List.append_assoc] at hf ⊢
    rw [List.length_append, hc] at hf
    obtain ⟨fuel, rfl⟩ := Nat.exists_eq_add_one_of_ne_zero (by omega : fuel ≠ 0)
    obtain ⟨t, ht⟩ := ih hcs fuel (by omega)
    refine ⟨t, ?_⟩
    rw [toChunks, if_neg (by rw [List.length_append, hc]; omega), ← hc, List.take_left, List.drop_left, ht]
    rfl

/-- the 64 entries of a catalog sector -/
def catalogChunks (p : Nat) (i : Entry) (s : List (Nat × Entry)) : List (List Nat) :=
  validationBytes p :: entryBytes i :: (secChunks s ++ List.replicate (62 - 2 * s.length) zero32)

theorem catalogChunks_flatten (p : Nat) (hp : p < 256) (i : Entry) (s : List (Nat × Entry)) :
    (catalogChunks p i s).flatten = catalogSector p i s := by
  have hpad : (62 - 2 * s.length) * 32 = 2048 - (64 + 64 * s.length) := by omega
  simp only [catalogSector, catalog_length p hp, ← hpad]
  simp only [catalogChunks, catalogBytes, zero32, List.flatten_cons, List.flatten_append, secChunks_flatten,
    List.flatten_replicate_replicate, List.append_assoc]

theorem catalogChunks_len32 (p : Nat) (i : Entry) (s : List (Nat × Entry)) :
    ∀ c ∈ catalogChunks p i s, c.length = 32 := by
  simp only [catalogChunks, List.forall_mem_cons, List.forall_mem_append]
  exact ⟨rfl, entryBytes_length i, secChunks_len32 s,
    fun c hc => by rw [List.eq_of_mem_replicate hc]; rfl⟩

/-- **C11 / C02 — a recorded catalog is read back as recorded, whatever follows its sector.**  `rest` is arbitrary:
the bytes of the next sector (a boot file, usually) have no influence, also when the catalog has no room for a
terminating empty entry (31 sections). -/
theorem catalog_parse_roundtrip (p : Nat) (hp : p = 0 ∨ p = 1 ∨ p = 2 ∨ p = 0xef) (i : Entry) (hi : EntryOk i)
    (s : List (Nat × Entry)) (hs : s.length ≤ 31) (hok : ∀ pe ∈ s, EntryOk pe.2) (rest : List Nat) :
    parseCatalog (catalogSector p i s ++ rest) = some (expectedCat p i s) := by
  have hp256 : p < 256 := by omega
  obtain ⟨t, ht⟩ := toChunks_flatten _ (catalogChunks_len32 p i s) rest _ (Nat.le_refl _)
  rw [catalogChunks_flatten p hp256 i s] at ht
  rw [parseCatalog, ht]
  simp only [catalogChunks, List.cons_append, parseValidation_validationBytes p hp, parseEntry_entryBytes i hi]
  have hw : waiting (secsOf s) = false := waiting_acc_secsOf [] s rfl
  rw [List.append_assoc, parseRest_sections p i s [] 2 _ hok (by omega), List.nil_append,
    parseRest_end hw, finishOk_secsOf]
  · rfl
  -- the sector is full, or at least one empty entry pads it
  by_cases hfull : s.length = 31
  · exact .inl (by omega)
  · obtain ⟨k, hk⟩ := Nat.exists_eq_add_one_of_ne_zero (by omega : 62 - 2 * s.length ≠ 0)
    exact .inr ⟨_, by rw [hk, List.replicate_succ, List.cons_append]⟩

/-- **why the end-of-sector rule is needed**: after a full catalog the next 32 bytes belong to whatever is stored in
the next sector; read as one more catalog entry they end the catalog (zeros), make the image unreadable (a byte that
starts no kind of entry), or add a boot entry nobody recorded (0x88 ...). -/
theorem without_rule_next_sector_decides (secs : List Sec) (h : waiting secs = false) :
    stepEntry secs [] zero32 = .done ∧
    stepEntry secs [] (0x42 :: List.replicate 31 0) = .bad ∧
    stepEntry secs [] (0x88 :: List.replicate 31 0) =
      .more secs [{ bootable := true, media := 0, loadSeg := 0, sysType := 0, count := 0, rba := 0 }] := by
  refine ⟨stepEntry_zero32 secs [] h, by simp [stepEntry, h], ?_⟩
  simp [stepEntry, h, parseEntry, rd16, rd32]

/-- the executable parser on a full catalog followed by a sector that starts with 0x88 -/
example :
    let s : List (Nat × Entry) := (List.range 31).map fun k =>
      (if k % 2 = 0 then 0xef else 0, { bootable := k ≠ 3, media := 0, loadSeg := 0, sysType := 0, count := 4, rba := 30 + k })
    parseCatalog (catalogSector 0 ⟨true, 0, 0, 0, 4, 29⟩ s ++ (0x88 :: List.replicate 2047 7)) =
      some (expectedCat 0 ⟨true, 0, 0, 0, 4, 29⟩ s) := by
  decide +kernel

end Pycdlib.Boot

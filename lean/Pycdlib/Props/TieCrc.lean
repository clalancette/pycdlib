/-
Props/TieCrc — the CRC functions of udf.py and isohybrid.py, as regenerated from /repo on every run
(Pycdlib/Generated/Checksum.lean), equal the bit-by-bit CRCs of Model/Checksum for every byte string: the regenerated
tables are compared with the bitwise definition entry by entry, and a table-driven byte step is the eight bit steps
(Proofs/Crc).
-/
import Pycdlib.Generated.Checksum
import Pycdlib.Proofs.Crc
import Pycdlib.Proofs.PyCast
namespace Pycdlib
open Pycdlib.PyOps

/-- every entry of the CRC-CCITT table in udf.py is the bitwise CRC of its index -/
theorem crc16_table_spec :
    ∀ b : Fin 256, Generated.crc_ccitt_table.getD b.val 0 = iter8 crc16Shift (b.val * 256) := by
  decide +kernel

/-- every entry of the CRC-32 table in isohybrid.py is the bitwise reflected CRC of its index -/
theorem crc32_table_spec :
    ∀ b : Fin 256, Generated.crc32_table.getD b.val 0 = iter8 crc32Shift b.val := by
  decide +kernel

/-- a Python fold over `int`s that stays inside the naturals (with invariant `P`) is the model's fold, step by step -/
theorem foldl_cast {f : Int → Int → Int} {g : Nat → Nat → Nat} {P : Nat → Prop}
    (hstep : ∀ c x : Nat, P c → x < 256 → f c x = (g c x : Nat) ∧ P (g c x)) (l : List Nat) (c : Nat) (hc : P c)
    (hl : ∀ x ∈ l, x < 256) : (l.map fun (x : Nat) => (x : Int)).foldl f c = ((l.foldl g c : Nat) : Int) := by
  induction l generalizing c with
  | nil => rfl
  | cons x xs ih =>
    obtain ⟨h1, h2⟩ := hstep c x hc (hl x List.mem_cons_self)
    rw [List.map_cons, List.foldl_cons, List.foldl_cons, h1]
    exact ih _ h2 fun y hy => hl y (List.mem_cons_of_mem _ hy)

theorem and_255 (c : Nat) : c &&& 255 = c % 256 := Nat.and_two_pow_sub_one_eq_mod c 8

theorem shl8_and_ff00 (c : Nat) : c * 256 &&& 65280 = c * 256 % 65536 / 256 * 256 := by
  rw [show c * 256 &&& 65280 = (c &&& 255) * 256 by
    simpa only [Nat.shiftLeft_eq, Nat.reducePow, Nat.reduceMul] using
      (Nat.shiftLeft_and_distrib (i := 8) (a := c) (b := 255)).symm, and_255]
  omega

theorem crc_ccitt_step_tie (crc x : Nat) (hc : crc < 65536) (hx : x < 256) :
    pyXor (pyIndex Generated.crc_ccitt_table (pyXor (x : Int) (pyAnd (pyShr (crc : Int) 8) 255)))
          (pyAnd (pyShl (crc : Int) 8) 65280) = ((crc16Byte crc x : Nat) : Int) := by
  simp only [py_cast, Nat.reducePow, and_255, shl8_and_ff00]
  rw [crc16Byte_table (fun i => Generated.crc_ccitt_table.getD i 0) crc16_table_spec crc x hc hx]

/-- **tie**: `udf.crc_ccitt` (table regenerated from the source on every run) = bit-by-bit CRC-16/CCITT -/
theorem crc_ccitt_tie (data : List Nat) (hd : ∀ x ∈ data, x < 256) :
    Generated.crc_ccitt (data.map fun (x : Nat) => (x : Int)) = ((crc16 data : Nat) : Int) :=
  foldl_cast (P := (· < 65536)) (fun c x hc hx => ⟨crc_ccitt_step_tie c x hc hx, crc16Byte_lt c x⟩) data 0
    (by decide) hd

theorem crc32_step_tie (crc x : Nat) (hc : crc < 2 ^ 32) (hx : x < 256) :
    pyXor (pyAnd (pyShr (crc : Int) 8) 16777215) (pyIndex Generated.crc32_table (pyAnd (pyXor (crc : Int) (x : Int)) 255))
      = ((crc32Byte crc x : Nat) : Int) := by
  have h24 : crc / 256 &&& 16777215 = crc / 256 := by
    rw [Nat.and_two_pow_sub_one_eq_mod (crc / 256) 24, Nat.mod_eq_of_lt (by omega)]
  simp only [py_cast, Nat.reducePow, h24, and_255]
  rw [crc32Byte_table (fun i => Generated.crc32_table.getD i 0) crc32_table_spec crc x hx]

/-- **tie**: `isohybrid.crc32` (table regenerated from the source on every run) = bit-by-bit CRC-32 -/
theorem crc32_tie (data : List Nat) (hd : ∀ x ∈ data, x < 256) :
    Generated.crc32 (data.map fun (x : Nat) => (x : Int)) = ((crc32 data : Nat) : Int) :=
  (congrArg (pyXor · 4294967295) (foldl_cast (P := (· < 2 ^ 32))
    (fun c x hc hx => ⟨crc32_step_tie c x hc hx, crc32Byte_lt c x hc hx⟩) data 4294967295 (by decide) hd)).trans
    (pyXor_cast _ 4294967295)

end Pycdlib

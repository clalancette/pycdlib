/-
Props/C08Alloc — the continuation-block allocator keeps its invariant over EVERY history: entries sorted by offset,
pairwise disjoint, inside their block.  `addEntry_ok` (the first gap that fits, then sorted insertion) and
`removeEntry_ok` are the steps; `Iso.ceb_ok` lifts them over every history of the bookkeeping machine (Model/Iso), where
the allocator decides which block an entry lands in and when a block is opened or given back.
-/
import Pycdlib.Props.C08
import Pycdlib.Props.C04Iso
namespace Pycdlib.Susp

theorem BlockOk.mono {bs lo lo' : Nat} {b : Block} (hb : BlockOk bs lo b) (h : lo' ≤ lo) : BlockOk bs lo' b := by
  cases b with
  | nil => exact Nat.le_trans h hb
  | cons e rest => exact ⟨Nat.le_trans h hb.1, hb.2⟩

theorem findGap_insert_ok {bs len prevEnd off : Nat} (hlen : 1 ≤ len) {b : Block} (hb : BlockOk bs prevEnd b)
    (hg : findGap bs len prevEnd b = some off) : BlockOk bs prevEnd (insertSorted (off, len) b) := by
  induction b generalizing prevEnd with
  | nil =>
    rw [findGap] at hg
    obtain ⟨hfit, ⟨⟩⟩ := Option.ite_none_right_eq_some.mp hg
    exact ⟨Nat.le_refl _, hfit⟩
  | cons e rest ih =>
    obtain ⟨o, l⟩ := e
    rw [findGap] at hg
    split at hg
    · next hfit =>
      obtain rfl : prevEnd = off := Option.some.inj hg
      rw [insertSorted, if_pos (show prevEnd < o by omega)]
      exact ⟨Nat.le_refl _, hfit, hb.2⟩
    · -- the gap lies behind this entry
      have hs := findGap_sound bs len (o + l) rest off hb.2 hg
      rw [insertSorted, if_neg (show ¬ off < o by omega)]
      exact ⟨hb.1, ih hb.2 hg⟩

theorem addEntry_ok (bs len : Nat) (hlen : 1 ≤ len) (b : Block) (r : Nat × Block) (hb : BlockOk bs 0 b)
    (h : addEntry bs b len = some r) : BlockOk bs 0 r.2 := by
  rw [addEntry] at h
  split at h
  · next off hg => cases h; exact findGap_insert_ok hlen hb hg
  · cases h

theorem BlockOk.filter {bs lo : Nat} {b : Block} (h : BlockOk bs lo b) (p : Nat × Nat → Bool) :
    BlockOk bs lo (b.filter p) := by
  induction b generalizing lo with
  | nil => exact h
  | cons e rest ih =>
    obtain ⟨o, l⟩ := e
    rw [List.filter_cons]
    split
    · exact ⟨h.1, ih h.2⟩
    · exact (ih h.2).mono (Nat.le_trans h.1 (Nat.le_add_right o l))

theorem removeEntry_ok (bs : Nat) (b : Block) (off len : Nat) (hb : BlockOk bs 0 b) : BlockOk bs 0 (removeEntry b off len) :=
  hb.filter _

end Pycdlib.Susp

namespace Pycdlib.Iso
open Pycdlib Pycdlib.Susp

/-- every continuation block is sound: sorted, pairwise disjoint entries inside the block -/
def CebOk (s : State) : Prop := ∀ b ∈ s.ceb, BlockOk BS 0 b

theorem ceAdd_ok {len : Nat} (hlen : 1 ≤ len) {bs : List Block} (h : ∀ b ∈ bs, BlockOk BS 0 b) :
    ∀ b ∈ (ceAdd len bs).1, BlockOk BS 0 b := by
  rcases ceAdd_eq len bs with ⟨pre, b, post, r, rfl, hr, he⟩ | ⟨b, hb, he⟩ <;> rw [he] <;>
    simp only [List.forall_mem_append, List.forall_mem_cons] at h ⊢
  · exact ⟨h.1, addEntry_ok BS len hlen b r h.2.1 hr, h.2.2⟩
  · refine ⟨h, ?_, nofun⟩
    rcases hb with rfl | ⟨r, hr, rfl⟩
    · exact Nat.zero_le BS
    · exact addEntry_ok BS len hlen [] r (Nat.zero_le BS) hr

theorem ceFree_ok {idx off len : Nat} {bs bs' : List Block} {n : Nat} (h : ∀ b ∈ bs, BlockOk BS 0 b)
    (hf : ceFree idx off len bs = some (bs', n)) : ∀ b ∈ bs', BlockOk BS 0 b := by
  obtain ⟨pre, b, post, rfl, ⟨rfl, -⟩ | ⟨rfl, -⟩⟩ := ceFree_eq_some hf <;>
    simp only [List.forall_mem_append, List.forall_mem_cons] at h ⊢
  · exact ⟨h.1, h.2.2⟩
  · exact ⟨h.1, removeEntry_ok BS b off len h.2.1, h.2.2⟩

theorem blockOkB_iff (bs : Nat) (b : Block) : ∀ lo, blockOkB bs lo b = true ↔ BlockOk bs lo b := by
  induction b with
  | nil => intro lo; simp [blockOkB, BlockOk]
  | cons e rest ih => obtain ⟨o, l⟩ := e; intro lo; simp [blockOkB, BlockOk, ih]

theorem cebOkB_iff (s : State) : cebOkB s = true ↔ CebOk s := by
  simp [cebOkB, CebOk, List.all_eq_true, blockOkB_iff]

/-- the continuation areas asked for have at least one byte (the machine's precondition on histories) -/
def ceLensPos : Op → Prop
  | .add parts _ => ∀ p ∈ parts, ∀ len, p = AddPart.ceEntry len → 1 ≤ len
  | .rm _ _ => True

theorem step_ceb {s s' : State} {op : Op} (hp : ceLensPos op) (hc : CebOk s) (h : step s op = some s') : CebOk s' := by
  cases op with
  | add parts ino =>
    obtain ⟨s1, b, r, hq, rfl, -⟩ := step_add_eq_some h
    show CebOk s1
    refine parts_induction (fun _ => rfl) (fun _ _ _ => rfl) (P := fun s _ => CebOk s) hq hc fun p hm s1 s2 _ _ hc1 hp1 => ?_
    obtain ⟨-, -, hceb, -⟩ := addPart_spec hp1
    rcases hceb with he | ⟨len, rfl, he⟩ <;> unfold CebOk <;> rw [he]
    · exact hc1
    · exact ceAdd_ok (hp _ hm len rfl) hc1
  | rm parts ino =>
    obtain ⟨s1, b, r, hq, rfl, -⟩ := step_rm_eq_some h
    show CebOk s1
    refine parts_induction (fun _ => rfl) (fun _ _ _ => rfl) (P := fun s _ => CebOk s) hq hc fun p _ s1 s2 _ _ hc1 hp1 => ?_
    obtain ⟨-, -, hceb, -⟩ := rmPart_spec hp1
    rcases hceb with he | ⟨idx, off, len, n, he⟩
    · unfold CebOk; rw [he]; exact hc1
    · exact ceFree_ok hc1 he

/-- **continuation areas never overlap and never leave their block, after any history** (C08, C04) -/
theorem ceb_ok (s s' : State) (ops : List Op) (hp : ∀ op ∈ ops, ceLensPos op) (hc : CebOk s)
    (h : run s ops = some s') : CebOk s' :=
  run_induction h hc fun op hm _ _ hc hs => step_ceb (hp op hm) hc hs

end Pycdlib.Iso

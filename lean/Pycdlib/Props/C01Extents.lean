/-
Props/C01Extents — a file of any number of extents keeps its records in order (C01: what was added is what the image
shows; C02: parsing a multi-extent file), and the rule as it was before the repair does not.
-/
import Pycdlib.Model.Extents
namespace Pycdlib.Extents

theorem bisectLeft_split (before tl : List Rec) (i : Nat) (hb : ∀ x ∈ before, x.ident < i)
    (ht : ∀ x, tl.head? = some x → ¬ x.ident < i) : bisectLeft (before ++ tl) i = before.length := by
  unfold bisectLeft
  rw [List.takeWhile_append_of_pos (by simpa using hb)]
  cases tl with
  | nil => simp
  | cons x xs => simp [ht x rfl]

theorem insertAt_append (a b : List Rec) (r : Rec) {n : Nat} (hn : n = a.length) :
    insertAt (a ++ b) n r = a ++ r :: b := by
  subst hn; simp [insertAt]

theorem setAt_append_cons (a b : List Rec) (x : Rec) (f : Rec → Rec) {n : Nat} (hn : n = a.length) :
    setAt (a ++ x :: b) n f = a ++ f x :: b := by
  subst hn; simp [setAt]

theorem lastOfFile_linked {l : List Rec} {idx : Nat} {r : Rec} (f : Nat) (h : l[idx]? = some r) (hc : r.cont = true)
    (hi : idx + 1 < l.length) : lastOfFile l idx (f + 1) = lastOfFile l (idx + 1) f := by
  simp [lastOfFile, h, hc, hi]

theorem lastOfFile_last {l : List Rec} {idx : Nat} {r : Rec} (f : Nat) (h : l[idx]? = some r) (hc : r.cont = false) :
    lastOfFile l idx (f + 1) = idx := by
  simp [lastOfFile, h, hc]

theorem lastOfFile_chain (mid post : List Rec) (x : Rec) (hm : ∀ y ∈ mid, y.cont = true) (hx : x.cont = false) :
    ∀ (pre : List Rec) (fuel : Nat), mid.length < fuel →
      lastOfFile (pre ++ (mid ++ x :: post)) pre.length fuel = pre.length + mid.length := by
  induction mid with
  | nil =>
    intro pre fuel hf
    obtain ⟨f, rfl⟩ := Nat.exists_eq_add_one_of_ne_zero (Nat.ne_zero_of_lt hf)
    exact lastOfFile_last f (by simp) hx
  | cons y ys ih =>
    intro pre fuel hf
    obtain ⟨f, rfl⟩ := Nat.exists_eq_add_one_of_ne_zero (Nat.ne_zero_of_lt hf)
    have := ih (fun z hz => hm z (List.mem_cons_of_mem _ hz)) (pre ++ [y]) f (Nat.lt_of_succ_lt_succ hf)
    rw [List.append_assoc, List.length_append, List.length_singleton] at this
    rw [lastOfFile_linked f (r := y) (by simp) (hm y List.mem_cons_self)
      (by simp only [List.length_append, List.length_cons]; omega)]
    exact this.trans (Nat.add_right_comm ..)

theorem addChild_new (before after : List Rec) (r : Rec) (hb : ∀ x ∈ before, x.ident < r.ident)
    (ha : ∀ x ∈ after, r.ident < x.ident) : addChild (before ++ after) r = before ++ r :: after := by
  have hidx : bisectLeft (before ++ after) r.ident = before.length :=
    bisectLeft_split before after r.ident hb fun x hx => Nat.lt_asymm (ha x (List.mem_of_mem_head? hx))
  simp only [addChild, hidx, insertAt_append before after r rfl]
  split
  next x hget =>
    rw [List.getElem?_append_right (Nat.le_refl _), Nat.sub_self] at hget
    rw [if_neg (Nat.ne_of_gt (ha x (List.mem_of_getElem? hget)))]
  next => rfl

/-- `mid`, then `x`, is the file's chain of continuation links; nothing is asked of what follows `x` -/
theorem addChild_continue (before mid after : List Rec) (x r : Rec) (hb : ∀ y ∈ before, y.ident < r.ident)
    (hm : ∀ y ∈ mid, y.ident = r.ident ∧ y.cont = true) (hx : x.ident = r.ident) (hxc : x.cont = false) :
    addChild (before ++ (mid ++ x :: after)) r
      = before ++ (mid ++ { x with multi := true, cont := true } :: r :: after) := by
  obtain ⟨hd, tl, htl, hhd⟩ : ∃ hd tl, mid ++ x :: after = hd :: tl ∧ hd.ident = r.ident := by
    cases mid with
    | nil => exact ⟨x, after, rfl, hx⟩
    | cons y ys => exact ⟨y, _, rfl, (hm y List.mem_cons_self).1⟩
  have hidx : bisectLeft (before ++ (mid ++ x :: after)) r.ident = before.length :=
    bisectLeft_split before _ r.ident hb fun z hz => by
      rw [htl, List.head?_cons, Option.some.injEq] at hz
      rw [← hz, hhd]; exact Nat.lt_irrefl _
  have hget : (before ++ (mid ++ x :: after))[before.length]? = some hd := by rw [htl]; simp
  have hlast := lastOfFile_chain mid after x (fun y hy => (hm y hy).2) hxc before
    (before ++ (mid ++ x :: after)).length (by simp only [List.length_append, List.length_cons]; omega)
  simp only [addChild, hidx, hget, hhd, if_true, hlast]
  rw [← List.append_assoc, setAt_append_cons _ after x _ (List.length_append ..).symm, List.append_cons,
    insertAt_append _ after r (by simp only [List.length_append, List.length_singleton])]
  simp

theorem fileRun_length (i n : Nat) : (fileRun i n).length = n := by simp [fileRun]

theorem fileRun_get (i n j : Nat) (hj : j < (fileRun i n).length) :
    (fileRun i n)[j]'hj = { ident := i, tag := j, multi := decide (j + 1 < n), cont := decide (j + 1 < n) } := by
  simp [fileRun]

theorem fileRun_succ (i n : Nat) :
    fileRun i (n + 1) = (List.range n).map (fun k => ⟨i, k, true, true⟩) ++ [⟨i, n, false, false⟩] := by
  simp only [fileRun, List.range_succ, List.map_append, List.map_cons, List.map_nil, Nat.lt_irrefl, decide_false]
  congr 1
  exact List.map_congr_left fun k hk => by simp [List.mem_range.mp hk]

/-- **C01 — the extents of a file stay in order, however many there are**, between the names that sort in front of it
and those behind, every extent but the last carrying the multi-extent flag and a continuation link (the defect repaired
in "fix: a file of three or more extents keeps its records in order" put extent 2 between extents 0 and 1) -/
theorem addFile_in_order (before after : List Rec) (i n : Nat) (hb : ∀ x ∈ before, x.ident < i)
    (ha : ∀ x ∈ after, i < x.ident) :
    addFile (before ++ after) i n = before ++ (fileRun i n ++ after) := by
  unfold addFile
  induction n with
  | zero => rfl
  | succ n ih =>
    rw [List.range_succ, List.foldl_append, ih, List.foldl_cons, List.foldl_nil]
    cases n with
    | zero => exact addChild_new before after ⟨i, 0, false, false⟩ hb ha
    | succ k =>
      rw [fileRun_succ, fileRun_succ, List.append_assoc, List.singleton_append,
        addChild_continue before _ after ⟨i, k, false, false⟩ ⟨i, k + 1, false, false⟩ hb (by simp) rfl rfl]
      simp [List.range_succ]

/-- the rule before the repair: the record found by `bisect_left` — the FIRST of the file — is continued -/
def addChildOld (l : List Rec) (r : Rec) : List Rec :=
  let idx := bisectLeft l r.ident
  match l[idx]? with
  | some x =>
    if x.ident = r.ident then insertAt (setAt l idx fun y => { y with multi := true, cont := true }) (idx + 1) r
    else insertAt l idx r
  | none => insertAt l idx r

/-- **the witness of the repaired defect**: with the old rule three extents end up as 0, 2, 1 and extent 1 is not
flagged -/
theorem old_rule_three_extents :
    ((List.range 3).foldl (fun acc k => addChildOld acc ⟨5, k, false, false⟩) []).map (fun r => (r.tag, r.multi)) =
      [(0, true), (2, false), (1, false)] := by decide

example :
    addFile ([⟨1, 0, false, false⟩] ++ [⟨9, 0, false, false⟩]) 5 4 =
      [⟨1, 0, false, false⟩] ++ (fileRun 5 4 ++ [⟨9, 0, false, false⟩]) := by decide

end Pycdlib.Extents

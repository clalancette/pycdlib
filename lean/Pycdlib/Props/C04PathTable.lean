/-
Props/C04PathTable — the space reserved for the path tables is exact after every history: two extents per started 4096
bytes of records (part of C04 "the declared size is the end of the last object" and of C03 "path tables as recorded").

That the four methods of headervd.py, as translated from the current source, are the model's `add`, `remove` and ceiling
division is proved in Props/Tie (`add_to_ptr_size_tie`, `remove_from_ptr_size_tie`, `space_size_tie`).  A record has at
most 4096 bytes (a path table record at most 264), so a step moves the number of started 4096-byte units by at most one:
an exact reservation stays exact, `remove` never takes the "should never happen" branch, and over ANY history the bytes
charged to the volume space size (four extents per True) are 2 tables × 2048 × (extents now − extents at the start).
-/
import Pycdlib.Model.PathTable
namespace Pycdlib.PathTable

theorem cdiv_4096 (a : Nat) : cdiv a 4096 = (a + 4095) / 4096 := by
  unfold cdiv; rw [Nat.add_sub_assoc (by decide)]

theorem cdiv_step {a b : Nat} (h1 : a ≤ b) (h2 : b ≤ a + 4096) :
    cdiv a 4096 ≤ cdiv b 4096 ∧ cdiv b 4096 ≤ cdiv a 4096 + 1 := by
  rw [cdiv_4096, cdiv_4096]; omega

/-- what a step charges when it answers True, as a multiple: `omega` then sees no case distinction -/
theorem ite_eq_toNat_mul (g : Bool) (c : Nat) : (if g then c else 0) = g.toNat * c := by
  cases g <;> simp

theorem ite_add_toNat (g : Bool) (a c : Nat) : (if g then a + c else a) = a + g.toNat * c := by
  cases g <;> simp

theorem ite_sub_toNat (g : Bool) (a c : Nat) : (if g then a - c else a) = a - g.toNat * c := by
  cases g <;> simp

theorem Inv.size_le {s : PT} (h : Inv s) : s.size ≤ s.extents * 2048 := by
  unfold Inv at h; rw [cdiv_4096] at h; omega

theorem add_inv (s : PT) (n : Nat) (h : Inv s) (hn : n ≤ 4096) : Inv (add s n).1 := by
  have := cdiv_step (Nat.le_add_right s.size n) (Nat.add_le_add_left hn _)
  unfold Inv at *
  by_cases hc : cdiv (s.size + n) 4096 * 2 > s.extents
  · rw [add, if_pos hc]; show s.extents + 2 = cdiv (s.size + n) 4096 * 2; omega
  · rw [add, if_neg hc]; show s.extents = cdiv (s.size + n) 4096 * 2; omega

theorem add_extents (s : PT) (n : Nat) : (add s n).1.extents = s.extents + 2 * (add s n).2.toNat := by
  simp only [add]; split <;> rfl

theorem remove_inv (s : PT) (n : Nat) (h : Inv s) (hn : n ≤ 4096) :
    ∃ r, remove s n = some r ∧ Inv r.1 ∧ r.1.extents + (if r.2 then 2 else 0) = s.extents := by
  have := cdiv_step (Nat.sub_le s.size n) (Nat.le_add_of_sub_le (Nat.sub_le_sub_left hn _))
  unfold Inv at *
  have h1 : ¬ cdiv (s.size - n) 4096 * 2 > s.extents := by omega
  by_cases h2 : cdiv (s.size - n) 4096 * 2 < s.extents
  · exact ⟨_, by rw [remove, if_neg h1, if_pos h2], show s.extents - 2 = cdiv (s.size - n) 4096 * 2 by omega,
      show s.extents - 2 + 2 = s.extents by omega⟩
  · exact ⟨_, by rw [remove, if_neg h1, if_neg h2], show s.extents = cdiv (s.size - n) 4096 * 2 by omega, rfl⟩

def small : Op → Prop
  | .add n => n ≤ 4096
  | .remove n => n ≤ 4096

theorem run_add (s : PT) (space n : Nat) (ops : List Op) :
    run s space (.add n :: ops) = run (add s n).1 (space + (add s n).2.toNat * (4 * 2048)) ops := by
  rw [← ite_add_toNat]
  by_cases h : cdiv (s.size + n) 4096 * 2 > s.extents
  · rw [run, add, if_pos h]
  · rw [run, add, if_neg h]

theorem run_remove {s : PT} {n : Nat} {r : PT × Bool} (h : remove s n = some r) (space : Nat) (ops : List Op) :
    run s space (.remove n :: ops) = run r.1 (space - r.2.toNat * (4 * 2048)) ops := by
  rw [run, h, ← ite_sub_toNat]

/-- **the path table reservation is exact after every history** -/
theorem run_exact (ops : List Op) : ∀ (s : PT) (space : Nat), Inv s → (∀ op ∈ ops, small op) →
    4096 * s.extents ≤ space →
    ∃ s' space', run s space ops = some (s', space') ∧ Inv s' ∧
      space' + 4096 * s.extents = space + 4096 * s'.extents := by
  induction ops with
  | nil => intro s space h _ _; exact ⟨s, space, rfl, h, rfl⟩
  | cons op ops ih =>
    intro s space h hs hsp
    have hop : small op := hs op List.mem_cons_self
    have hrest : ∀ o ∈ ops, small o := fun o ho => hs o (List.mem_cons_of_mem _ ho)
    cases op with
    | add n =>
      have hg := add_extents s n
      obtain ⟨s', sp', hr, hinv, hsp'⟩ := ih _ (space + (add s n).2.toNat * (4 * 2048)) (add_inv s n h hop) hrest (by omega)
      exact ⟨s', sp', (run_add ..).trans hr, hinv, by omega⟩
    | remove n =>
      obtain ⟨r, hq, hinv, hext⟩ := remove_inv s n h hop
      rw [ite_eq_toNat_mul] at hext
      obtain ⟨s', sp', hr, hinv', hsp'⟩ := ih r.1 (space - r.2.toNat * (4 * 2048)) hinv hrest (by omega)
      exact ⟨s', sp', (run_remove hq ..).trans hr, hinv', by omega⟩

/-- a new image: the root record (10 bytes), two extents per table; a history that crosses 4096 bytes and comes back -/
example : Inv ⟨10, 2⟩ := by simp [Inv, cdiv]

example :
    run ⟨10, 2⟩ 8192 ((List.replicate 16 (.add 264)) ++ (List.replicate 16 (.remove 264))) = some (⟨10, 2⟩, 8192) := by
  decide +kernel

/-- **copies of the PVD do not change what the path tables cost**: with `k ≥ 1` identical copies, the bytes charged for a
new record are those charged for a single descriptor -/
theorem addAll_independent_of_copies (s : PT) (k n : Nat) (hk : 1 ≤ k) :
    (addAll (List.replicate k s) n).2 = (if (add s n).2 then 4 * 2048 else 0) ∧
    (addAll (List.replicate k s) n).1 = List.replicate k (add s n).1 := by
  obtain ⟨k', rfl⟩ : ∃ k', k = k' + 1 := ⟨k - 1, by omega⟩
  simp only [addAll, List.map_replicate, List.any_replicate]
  constructor
  · cases (add s n).2 <;> simp
  · trivial

/-- the witness of the repaired defect: with two copies the old accounting charged eight extents for one growth step -/
theorem old_accounting_charges_per_copy :
    (addAllOld (List.replicate 2 ⟨4090, 2⟩) 10).2 = 2 * (4 * 2048) ∧ (addAll (List.replicate 2 ⟨4090, 2⟩) 10).2 = 4 * 2048 := by
  decide

end Pycdlib.PathTable

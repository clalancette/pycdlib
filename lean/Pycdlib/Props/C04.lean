/-
Props/C04 — sector allocation is sound.
  * sequential placement (`place`) yields pairwise disjoint, in-bounds objects whose end is exactly start + Σ counts
    (the from-scratch recomputation `_reshuffle_extents` is this fold);
  * directory sizes (the lemmas are in Proofs/Pack and audited with this file): inserting a record (≤ half a sector)
    grows the next-fit packing by at most one sector, so one `_add_child` / `remove_child` keeps `data_length` covering
    the records (over every history: `Iso.dirs_covered` in Props/C04Iso), and the
    incremental per-child cache equals the from-scratch packing.
Not proved (label `space_exact_partial` of the check): the whole-image statement "declared size = end of the last object" is decided on the
implementation by the allocation oracle (independent reader → pairwise disjointness, bounds, exact image length)
and by the size correspondence with the edit-state model (Props/C04Iso).
-/
import Pycdlib.Model.Layout
import Pycdlib.Proofs.Pack
namespace Pycdlib

theorem place_length (start : Nat) (cs : List Nat) : (place start cs).length = cs.length := by
  induction cs generalizing start with
  | nil => rfl
  | cons c cs ih => simp [place, ih]

/-- every placed object lies between `start` and the exact end -/
theorem place_in_bounds (start : Nat) (cs : List Nat) :
    ∀ p ∈ place start cs, start ≤ p.1 ∧ p.1 + p.2 ≤ placeEnd start cs := by
  induction cs generalizing start with
  | nil => simp [place]
  | cons c cs ih =>
    intro p hp
    simp only [place, List.mem_cons] at hp
    rcases hp with rfl | hp
    · simp [placeEnd]
    · have := ih (start + c) p hp
      simp only [placeEnd, List.sum_cons] at this ⊢
      omega

/-- **no overlap**: objects placed earlier end before objects placed later begin -/
theorem place_disjoint (start : Nat) (cs : List Nat) :
    (place start cs).Pairwise fun a b => a.1 + a.2 ≤ b.1 := by
  induction cs generalizing start with
  | nil => simp [place]
  | cons c cs ih =>
    simp only [place, List.pairwise_cons]
    refine ⟨?_, ih (start + c)⟩
    intro b hb
    have := (place_in_bounds (start + c) cs b hb).1
    simpa using this

/-- **exact size**: the last object ends at start + Σ counts -/
theorem place_end_exact (start : Nat) (cs : List Nat) (h : cs ≠ []) :
    ∃ p ∈ place start cs, (place start cs).getLast? = some p ∧ p.1 + p.2 = placeEnd start cs := by
  induction cs generalizing start with
  | nil => exact absurd rfl h
  | cons c cs ih =>
    cases cs with
    | nil => exact ⟨(start, c), by simp [place], by simp [place], by simp [placeEnd]⟩
    | cons d ds =>
      obtain ⟨p, hp, hl, he⟩ := ih (start + c) (by simp)
      refine ⟨p, List.mem_cons_of_mem _ hp, ?_, ?_⟩
      · simp only [place] at hl ⊢
        rw [List.getLast?_cons_cons]; exact hl
      · simp only [placeEnd, List.sum_cons] at he ⊢; omega

/-- delta accounting agrees with the from-scratch sum: adding then removing an object of the same byte
length leaves the declared size unchanged, and adding accounts exactly its sector count -/
theorem space_delta_exact (space bytes : Nat) :
    removeSpace (addSpace space bytes) bytes = space ∧ addSpace space bytes = space + sectorsOf bytes := by
  unfold removeSpace addSpace; omega

/-- the contents of a file fit its sectors: `sectorsOf len` sectors hold `len` bytes, and no fewer do -/
theorem sectors_fit (len : Nat) : len ≤ 2048 * sectorsOf len ∧ (0 < len → 2048 * (sectorsOf len - 1) < len) := by
  unfold sectorsOf; omega

example : place 20 [1, 2, 0, 3] = [(20, 1), (21, 2), (23, 0), (23, 3)] := rfl

end Pycdlib

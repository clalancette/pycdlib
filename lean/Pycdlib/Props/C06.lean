/-
Props/C06 — lazy metadata is transparent.
For any edit semantics and any layout function: whatever is interleaved between the edits (force_consistency,
queries, extra writes) and whichever consistency mode is used, the final write emits the layout of the
edit state reached by the edits alone; and after `force` the cached (queried) layout is what the next write emits.
-/
import Pycdlib.Model.Lazy
namespace Pycdlib.Lazy

variable {E L Op : Type}

theorem step_coherent (apply : E → Op → E) (layout : E → L) (ac : Bool) (s : St E L) (x : Step Op)
    (h : Coherent layout s) : Coherent layout (step apply layout ac s x) := by
  unfold Coherent at *
  cases x with
  | op o => cases ac <;> simp [step]
  | force => exact fun _ => rfl
  | query => exact h
  | write =>
    simp only [step]
    split
    · exact fun _ => rfl
    · exact h

theorem step_edit (apply : E → Op → E) (layout : E → L) (ac : Bool) (s : St E L) (x : Step Op) :
    (step apply layout ac s x).edit = match x with
      | .op o => apply s.edit o
      | _ => s.edit := by
  cases x with
  | op o => cases ac <;> rfl
  | force | query => rfl
  | write => simp only [step]; split <;> rfl

theorem run_edit (apply : E → Op → E) (layout : E → L) (ac : Bool) (s : St E L) (xs : List (Step Op)) :
    (run apply layout ac s xs).edit = (edits xs).foldl apply s.edit := by
  induction xs generalizing s with
  | nil => rfl
  | cons x xs ih =>
    rw [run, ih, step_edit]
    cases x <;> rfl

theorem run_coherent (apply : E → Op → E) (layout : E → L) (ac : Bool) (s : St E L) (xs : List (Step Op))
    (h : Coherent layout s) : Coherent layout (run apply layout ac s xs) := by
  induction xs generalizing s with
  | nil => exact h
  | cons x xs ih => exact ih _ (step_coherent apply layout ac s x h)

theorem written_of_coherent (layout : E → L) (s : St E L) (h : Coherent layout s) :
    written layout s = layout s.edit := by
  unfold written
  cases hst : s.stale with
  | true => rfl
  | false => exact h hst

/-- **C06 (schedule)**: the image written at the end depends only on the edits — not on the mode, nor on any
`force` / `query` / `write` calls in between. -/
theorem schedule_irrelevant (apply : E → Op → E) (layout : E → L) (ac ac' : Bool) (s s' : St E L)
    (xs ys : List (Step Op)) (hs : Coherent layout s) (hs' : Coherent layout s')
    (he : s.edit = s'.edit) (hxy : edits xs = edits ys) :
    written layout (run apply layout ac s xs) = written layout (run apply layout ac' s' ys) := by
  rw [written_of_coherent _ _ (run_coherent apply layout ac s xs hs),
    written_of_coherent _ _ (run_coherent apply layout ac' s' ys hs'), run_edit, run_edit, he, hxy]

/-- **C06 (query)**: after `force_consistency` what record queries report (the cache) is what the next write emits -/
theorem force_then_query (apply : E → Op → E) (layout : E → L) (ac : Bool) (s : St E L) :
    (step apply layout ac s (.force : Step Op)).cache = written layout (step apply layout ac s (.force : Step Op)) := by
  simp [step, written]

/-- the hypothesis matters: an operation that changes the edit state WITHOUT marking the cache stale breaks the
claim (this is what `add_isohybrid` did; kept as the Lean witness of that finding) -/
theorem stale_flag_needed :
    ∃ (s : St Nat Nat), ¬ Coherent (fun e : Nat => e) s ∧ written (fun e : Nat => e) s ≠ (fun e : Nat => e) s.edit :=
  ⟨{ edit := 1, cache := 0, stale := false }, by simp [Coherent], by simp [written]⟩

end Pycdlib.Lazy

/-
Props/Tie — the definitions REGENERATED from /repo on every run (Pycdlib/Generated/*.lean, written by
harness/py2lean.py) are proved equal to the hand-written model definitions the property theorems use.
A changed constant, comparison or rounding direction in /repo makes one of these fail.  Here: the small functions of
Generated/Kernel (`fid_len_tie` and `calc_cc_tie` stand next to their model functions, in Props/C10 and Props/C12); the CRC
functions and their tables are in Props/TieCrc, the packing loops in Props/TiePack and Props/TieGrow.  An arithmetic tie moves the casts outwards (`py_cast`, Proofs/PyCast) and is left with the model's own
case distinction.
-/
import Pycdlib.Generated.Kernel
import Pycdlib.Proofs.PyCast
import Pycdlib.Model.Layout
import Pycdlib.Model.PathTable
import Pycdlib.Model.Dates
namespace Pycdlib
open Pycdlib.PyOps

/-- `-(-n // d)` rounds up -/
theorem ceiling_div_cast (n d : Nat) : Generated.ceiling_div n d = ((n + d - 1) / d : Nat) := by
  rw [Generated.ceiling_div, pyFloorDiv_of_nonneg _ (Int.natCast_nonneg d)]
  rcases Nat.eq_zero_or_pos d with rfl | hd
  · simp
  · -- `n + d - 1 = d * q + r` with `r < d` gives `-n = d * (-q) + (d - 1 - r)`, and `d - 1 - r` is a remainder
    have h := Nat.div_add_mod (n + d - 1) d
    have hr := Nat.mod_lt (n + d - 1) hd
    generalize (n + d - 1) / d = q at h ⊢
    generalize (n + d - 1) % d = r at h hr
    have : -(n : Int) / d = -q := by
      refine ((Int.ediv_emod_unique (r := d - 1 - r) (by omega)).mpr ⟨?_, by omega, by omega⟩).1
      rw [Int.mul_neg]; omega
    omega

attribute [py_cast] ceiling_div_cast

/-- `utils.ceiling_div(n, 2048)` is the sector count used by the layout model -/
theorem ceiling_div_tie (n : Nat) : Generated.ceiling_div n 2048 = (sectorsOf n : Int) := ceiling_div_cast n 2048

/-- `PathTableRecord.record_length` -/
theorem ptr_record_length_tie (n : Nat) : Generated.ptr_record_length n = ((8 + n + n % 2 : Nat) : Int) := by
  simp only [Generated.ptr_record_length, py_cast]

/-- `utils.gmtoffset_from_tm` is the model's `gmtoffset` -/
theorem gmtoffset_tie (loc gm : Tm) :
    Generated.gmtoffset_from_tm loc.min gm.min loc.hour gm.hour loc.yday gm.yday loc.year gm.year
      = gmtoffset loc gm := by
  unfold Generated.gmtoffset_from_tm gmtoffset
  simp only [pyFloorDiv_of_nonneg _ (by decide : (0 : Int) ≤ 15)]
  by_cases h : loc.year - gm.year ≠ 0 <;> simp [h]

end Pycdlib

namespace Pycdlib.PathTable
open Pycdlib.PyOps

/-- `add_to_ptr_size` as translated from headervd.py -/
theorem add_to_ptr_size_tie (s : PT) (n : Nat) :
    Generated.vd_add_to_ptr_size s.size s.extents n =
      (((add s n).1.size : Int), ((add s n).1.extents : Int), if (add s n).2 then 1 else 0) := by
  rw [Generated.vd_add_to_ptr_size, add, cdiv]
  simp only [py_cast]
  split <;> rfl

/-- `remove_from_ptr_size` as translated from headervd.py (result -1 = the exception) -/
theorem remove_from_ptr_size_tie (s : PT) (n : Nat) (hn : n ≤ s.size) (he : 2 ≤ s.extents) :
    Generated.vd_remove_from_ptr_size s.size s.extents n =
      match remove s n with
      | none => (((s.size - n : Nat) : Int), (s.extents : Int), -1)
      | some (s', b) => ((s'.size : Int), (s'.extents : Int), if b then 1 else 0) := by
  rw [Generated.vd_remove_from_ptr_size, remove, cdiv]
  simp only [py_cast, ← Int.natCast_sub hn, ← Int.natCast_sub he]
  split
  · rfl
  · split <;> rfl

/-- `add_to_space_size` / `remove_from_space_size`: the space size moves by whole sectors, rounded up -/
theorem space_size_tie (space bytes : Nat) :
    Generated.vd_add_to_space_size space bytes 2048 = (((space + (bytes + 2047) / 2048 : Nat) : Int), 0) ∧
    Generated.vd_remove_from_space_size space bytes 2048 = ((space : Int) - (((bytes + 2047) / 2048 : Nat) : Int), 0) := by
  simp only [Generated.vd_add_to_space_size, Generated.vd_remove_from_space_size, ceiling_div_tie, sectorsOf,
    ← Int.natCast_add, and_self]

end Pycdlib.PathTable

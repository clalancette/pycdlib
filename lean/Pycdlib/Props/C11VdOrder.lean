/-
Props/C11VdOrder — where the El Torito boot record is.  El Torito 1.0 requires it at sector 17, and the library refuses
to open an image where it is elsewhere.  Before "fix: keep the El Torito boot record at extent 17 when the PVD has
copies" all PVD copies came first (`orderOld`, `old_order_moves_boot_record`).
-/
import Pycdlib.Model.VdOrder
namespace Pycdlib.VdOrder

theorem order_length (c : Counts) (h : 1 ≤ c.pvds) : (order c).length = c.pvds + c.brs + c.svds + c.vdsts := by
  simp only [order, List.length_append, List.length_replicate, List.length_singleton]; omega

theorem first_is_pvd (c : Counts) : (order c)[0]? = some 1 := by simp [order]

theorem boot_record_at_17 (c : Counts) (h : 1 ≤ c.brs) : (order c)[sectorOf 1 - 16]? = some 0 := by
  obtain ⟨b, hb⟩ := Nat.exists_eq_add_one_of_ne_zero (by omega : c.brs ≠ 0)
  simp [order, sectorOf, hb, List.replicate_succ]

def orderOld (c : Counts) : List Nat :=
  List.replicate c.pvds 1 ++ List.replicate c.brs 0 ++ List.replicate c.svds 2 ++ List.replicate c.vdsts 255

theorem old_order_moves_boot_record : (orderOld ⟨3, 1, 1, 1⟩)[sectorOf 1 - 16]? = some 1 := by decide

example : order ⟨3, 1, 1, 1⟩ = [1, 0, 1, 1, 2, 255] := by decide

end Pycdlib.VdOrder

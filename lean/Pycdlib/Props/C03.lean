/-
Props/C03 — structural validity of the ECMA-119 records pycdlib writes: decode ∘ encode = id for directory records and
path table records on every well-formed field set.  The both-endian numbers are in Proofs/Bytes, the packing of records
into sectors at the cached offsets in Proofs/Pack (`writer_no_straddle`, `writer_matches_cache`).
Not proved (label `master_wellformed_partial` of the check): the whole-image predicate (descriptor set, "."/".." links,
sortedness, path tables = level-order listing with parent numbers) is the error list of Model/Reader.lean, run on the
bytes pycdlib writes for every generated history.
-/
import Pycdlib.Model.Codec
import Pycdlib.Proofs.Bytes
import Pycdlib.Proofs.Pack
namespace Pycdlib

theorem encDR_length (r : DRF) (hdate : r.date.length = 7) : (encDR r).length = r.len := by
  simp only [encDR, List.length_append, List.length_cons, List.length_nil, both32_length, both16_length,
    zeros_length, hdate, DRF.len, DRF.bodyLen]

/-- **directory records**: decoding what `record()` emits gives back every field -/
theorem decDR_encDR (r : DRF) (h : r.wf) :
    decDR (encDR r) = some { r with su := r.su ++ zeros (r.bodyLen % 2) } := by
  obtain ⟨he, hd, hdate, hf, hu, hg, hs, hid, hlen⟩ := h
  have hlfi : r.ident.length < 256 := by unfold DRF.len DRF.bodyLen at hlen; omega
  have hl : (u8 r.len).toNat = (encDR r).length := by rw [encDR_length r hdate, u8_toNat_of_lt (Nat.lt_succ_of_le hlen)]
  unfold decDR
  simp only [encDR, List.cons_append, List.nil_append, List.append_assoc] at hl ⊢
  -- the decoder cuts each field off the front by its length; each field decodes by its own round trip
  simp only [hl, ne_eq, not_true_eq_false, false_or, if_false,
    List.take_left' (both32_length _), List.drop_left' (both32_length _), decBoth32_both32 _ he, decBoth32_both32 _ hd,
    List.take_left' hdate, List.drop_left' hdate,
    List.take_left' (both16_length _), List.drop_left' (both16_length _), decBoth16_both16 _ hs,
    u8_toNat_of_lt hlfi, u8_toNat_of_lt hf, u8_toNat_of_lt hu, u8_toNat_of_lt hg,
    List.take_left, List.drop_left, List.drop_left' (zeros_length _)]
  -- left: the decoder's last test (identifier and pad byte are there, the date has seven bytes)
  rw [if_neg]
  simp only [List.length_append, zeros_length, hdate, not_true_eq_false, or_false]; omega

/-- **path table records** (both byte orders): decoding what is emitted gives back extent, parent number and identifier -/
theorem decPTR_encPTR (be : Bool) (r : PTRF) (h : r.wf) : decPTR be (encPTR be r) = some r := by
  obtain ⟨he, hp, h1, hl⟩ := h
  cases be <;>
    simp only [decPTR, encPTR, le32, le16, be32, be16, Bool.false_eq_true, if_false, if_true, List.cons_append,
      List.nil_append, List.append_assoc, List.length_append, leN_length, beN_length, zeros_length,
      u8_toNat_of_lt hl, ne_eq, not_true_eq_false, false_or,
      List.take_left' (leN_length _ _), List.drop_left' (leN_length _ _),
      List.take_left' (beN_length _ _), List.drop_left' (beN_length _ _), List.take_left,
      ofLE_leN 4 _ he, ofLE_leN 2 _ hp, ofBE_beN 4 _ he, ofBE_beN 2 _ hp]

/-- record lengths are even and at least 34, so a zero length byte always means "padding to the sector end" -/
theorem dr_len_even (r : DRF) : r.len % 2 = 0 ∧ 34 ≤ r.len := by
  unfold DRF.len DRF.bodyLen; omega

def exampleDR : DRF :=
  { extent := 23, dataLen := 2048, date := [123, 11, 14, 22, 13, 20, 0], flags := 2, unitSize := 0,
    gap := 0, seqnum := 1, ident := [65, 66], su := [] }
example : decDR (encDR exampleDR) = some exampleDR := by decide +kernel

end Pycdlib

/-
Props/C08 — Rock Ridge system use layout.
  * names of ANY length: the NM pieces in the directory record and the continuation area concatenate back to the name
    (`addName_concat`); the pieces cut for the continuation area have 1 to 250 bytes (`chunks_len`);
  * symbolic links with ANY target: the SL entries, read in order by the RRIP rules, give back the target however
    components are cut at record boundaries (`sl_reassembles`), and all but the last say CONTINUE (`sl_chain`);
  * `put` and `_add_name` keep the directory record within 254 bytes (`put_cur_le`, `addName_piece_len`);
  * continuation block allocator: the offset returned overlaps no existing entry and lies inside the block
    (`findGap_sound`);
  * constants (254, entry lengths, ER strings) are regenerated from rockridge.py and proved equal (`susp_consts_tie`).
-/
import Pycdlib.Model.Susp
import Pycdlib.Generated.Susp
import Pycdlib.Proofs.Symlink
namespace Pycdlib.Susp

theorem chunks_concat (fuel : Nat) (l : Bytes) (h : l.length < fuel) : (chunks250 fuel l).flatten = l := by
  fun_induction chunks250 fuel l with
  | case1 => omega
  | case2 l fuel hl => rw [List.isEmpty_iff.mp hl]; rfl
  | case3 l fuel hl ih =>
    have := mt List.isEmpty_iff_length_eq_zero.mpr hl
    rw [List.flatten_cons, ih (by rw [List.length_drop]; omega), List.take_append_drop]

theorem chunks_len (fuel : Nat) (l : Bytes) : ∀ p ∈ chunks250 fuel l, 1 ≤ p.length ∧ p.length ≤ 250 := by
  fun_induction chunks250 fuel l with
  | case1 | case2 => nofun
  | case3 l fuel hl ih =>
    have := mt List.isEmpty_iff_length_eq_zero.mpr hl
    refine List.forall_mem_cons.mpr ⟨?_, ih⟩
    rw [List.length_take]; omega

theorem nmName_append (l1 l2 : List Ent) : nmName (l1 ++ l2) = nmName l1 ++ nmName l2 := by simp [nmName]

theorem nmName_markNm (ps : List Bytes) : nmName (markNm ps) = ps.flatten := by
  fun_induction markNm ps with
  | case1 => rfl
  | case2 p => simp [nmName]
  | case3 p ps _ ih => rw [List.flatten_cons, ← ih]; rfl

theorem markNm_length (ps : List Bytes) : (markNm ps).length = ps.length := by
  fun_induction markNm ps with
  | case1 | case2 => rfl
  | case3 p ps _ ih => rw [List.length_cons, List.length_cons, ih]

theorem addName_some {hasCE : Bool} {a a' : Acc} {name : Bytes} (h : addName hasCE a name = some a') :
    ∃ ps d e, ps.flatten = name ∧ d ++ e = markNm ps ∧ (hasCE = false → e = []) ∧
      a'.dr = a.dr ++ d ∧ a'.ce = a.ce ++ e := by
  unfold addName at h
  simp only at h
  split at h
  · cases h
  · next hfit =>
    cases h
    generalize allowed - a.cur - 5 = n at hfit ⊢
    refine ⟨_, _, _, ?_, List.take_append_drop _ _, fun hce => ?_, rfl, rfl⟩
    · rw [List.flatten_append, chunks_concat _ _ (Nat.lt_succ_self _)]
      split
      · simp
      · simp [show n = 0 by omega]
    · have hlen : name.length ≤ n := by simpa [hce] using hfit
      rw [List.drop_eq_nil_of_le hlen, List.drop_eq_nil_iff, markNm_length]
      split <;> simp [chunks250]

/-- **names of any length survive the split**: reading the NM entries of the directory record and then of the
continuation area gives back exactly the name that was set. -/
theorem addName_concat (hasCE : Bool) (a a' : Acc) (name : Bytes) (h : addName hasCE a name = some a')
    (ha : nmName a.dr = [] ∧ nmName a.ce = []) :
    nmName (a'.dr ++ a'.ce) = name := by
  obtain ⟨ps, d, e, hps, hde, -, hdr, hce⟩ := addName_some h
  rw [hdr, hce, nmName_append, nmName_append, nmName_append, ha.1, ha.2, List.nil_append, List.nil_append,
    ← nmName_append, hde, nmName_markNm, hps]

/-- the piece kept in the directory record never pushes it beyond 254 bytes -/
theorem addName_piece_len (hasCE : Bool) (a a' : Acc) (name : Bytes) (h : addName hasCE a name = some a')
    (hc : a.cur ≤ allowed) : a'.cur ≤ allowed := by
  unfold addName at h
  simp only at h
  split at h
  · cases h
  · cases h
    generalize hn : allowed - a.cur - 5 = n
    show a.cur + (if n > 0 then 5 + (name.take n).length else 0) ≤ allowed
    split
    · rw [List.length_take]; omega
    · exact hc

theorem put_some {hasCE : Bool} {a a' : Acc} {e : Ent} (h : put hasCE a e = some a') :
    a.cur + e.len ≤ allowed ∧ a' = { a with cur := a.cur + e.len, dr := a.dr ++ [e] } ∨
    hasCE = true ∧ a' = { a with ce := a.ce ++ [e] } := by
  unfold put at h
  split at h
  · split at h
    · next hce => exact .inr ⟨hce, (Option.some.inj h).symm⟩
    · cases h
  · exact .inl ⟨by omega, (Option.some.inj h).symm⟩

theorem optPut_some {c hasCE : Bool} {a a' : Acc} {e : Ent} (h : optPut c hasCE a e = some a') :
    a' = a ∨ put hasCE a e = some a' := by
  unfold optPut at h
  split at h
  · exact .inr h
  · exact .inl (Option.some.inj h).symm

/-- `put` keeps the directory record within the allowed size -/
theorem put_cur_le (hasCE : Bool) (a a' : Acc) (e : Ent) (h : put hasCE a e = some a') (hc : a.cur ≤ allowed) :
    a'.cur ≤ allowed := by
  rcases put_some h with ⟨hfit, rfl⟩ | ⟨_, rfl⟩
  · exact hfit
  · exact hc

/-- block invariant: entries sorted by offset, pairwise disjoint, inside the block, none before `lo` -/
def BlockOk (bs lo : Nat) : Block → Prop
  | [] => lo ≤ bs
  | (o, l) :: rest => lo ≤ o ∧ BlockOk bs (o + l) rest

theorem BlockOk.le {bs lo : Nat} {b : Block} (h : BlockOk bs lo b) : lo ≤ bs := by
  induction b generalizing lo with
  | nil => exact h
  | cons e rest ih => have := ih h.2; have := h.1; omega

theorem BlockOk.lo_le_of_mem {bs lo : Nat} {b : Block} (h : BlockOk bs lo b) : ∀ e ∈ b, lo ≤ e.1 := by
  induction b generalizing lo with
  | nil => exact fun _ he => nomatch he
  | cons x rest ih =>
    intro e he
    rcases List.mem_cons.mp he with rfl | he
    · exact h.1
    · have := ih h.2 e he; have := h.1; omega

/-- **allocator soundness**: the offset found starts at or after `prevEnd`, the new entry ends inside the
block and before every later entry, i.e. it overlaps nothing. -/
theorem findGap_sound (bs len prevEnd : Nat) (b : Block) (off : Nat) (hb : BlockOk bs prevEnd b)
    (h : findGap bs len prevEnd b = some off) :
    prevEnd ≤ off ∧ off + len ≤ bs ∧ ∀ e ∈ b, off + len ≤ e.1 ∨ e.1 + e.2 ≤ off := by
  induction b generalizing prevEnd with
  | nil =>
    rw [findGap] at h
    obtain ⟨hfit, ⟨⟩⟩ := Option.ite_none_right_eq_some.mp h
    exact ⟨Nat.le_refl _, hfit, nofun⟩
  | cons x xs ih =>
    obtain ⟨o, l⟩ := x
    rw [findGap] at h
    split at h
    · -- the gap in front of the first entry: every entry starts at or after that one
      cases h
      refine ⟨Nat.le_refl _, by have := hb.2.le; omega, fun e he => .inl ?_⟩
      have : o ≤ e.1 := BlockOk.lo_le_of_mem (b := (o, l) :: xs) ⟨Nat.le_refl o, hb.2⟩ e he
      omega
    · obtain ⟨h1, h2, h3⟩ := ih (o + l) hb.2 h
      exact ⟨by have := hb.1; omega, h2, List.forall_mem_cons.mpr ⟨.inr h1, h3⟩⟩

/-- the entry added by `add_entry` is disjoint from every entry already in the block -/
theorem addEntry_disjoint (bs : Nat) (b : Block) (len off : Nat) (b' : Block) (hb : BlockOk bs 0 b)
    (h : addEntry bs b len = some (off, b')) :
    off + len ≤ bs ∧ ∀ e ∈ b, off + len ≤ e.1 ∨ e.1 + e.2 ≤ off := by
  unfold addEntry at h
  split at h
  · next _ _ hg => cases h; exact (findGap_sound bs len 0 b off hb hg).2
  · cases h

/-- constants regenerated from rockridge.py -/
theorem susp_consts_tie :
    allowed = Generated.allowedDrSize ∧
    erLen .v109 = 8 + Generated.ext_id_109_len + Generated.ext_des_109_len + Generated.ext_src_109_len ∧
    erLen .v112 = 8 + Generated.ext_id_112_len + Generated.ext_des_112_len + Generated.ext_src_112_len ∧
    Generated.spLen = 7 ∧ Generated.rrLen = 5 ∧ Generated.ceLen = 28 ∧ Generated.clLen = 12 ∧
    Generated.plLen = 12 ∧ Generated.reLen = 4 ∧ Generated.slHeaderLen = 5 ∧ Generated.tfFlags = 14 := by
  decide

/-- a 300-byte name on a 1.09 record of length 48: RR and one NM piece stay in the record; NM rest, PX, TF go to the
continuation area -/
example : ((rrNew false .v109 (List.replicate 300 97) none false false false 48).map
    fun r => (r.hasCE, (nmName (r.dr ++ r.ce)).length, r.dr.length, r.ce.length)) = some (true, 300, 2, 3) := by
  decide +kernel

/-- **C08 (symbolic links, every target)**: the SL entries emitted for a symbolic link reassemble to its target. -/
theorem sl_reassembles (hasCE : Bool) (a a' : Acc) (target : Bytes) (ht : target ≠ [])
    (h : newSymlink hasCE a target = some a') :
    ∃ dr ce, a'.dr = a.dr ++ dr ∧ a'.ce = a.ce ++ ce ∧ slTarget (allComps (dr ++ ce)) = target := by
  obtain ⟨dr, ce, _, _, hdr, hce, _, _, hre, _⟩ := newSymlink_spec h
  exact ⟨dr, ce, hdr, hce, hre ht⟩

/-- **C08 (symbolic links, record chain)**: of the SL entries emitted for one symbolic link, every one but the last
carries the CONTINUE flag of RRIP 4.1.3 and the last does not — a reader that stops at the first entry without the
flag reads all of them (with `sl_reassembles`: and so recovers the target). -/
theorem sl_chain (hasCE : Bool) (a a' : Acc) (target : Bytes) (h : newSymlink hasCE a target = some a') :
    ∃ dr ce pre cs, a'.dr = a.dr ++ dr ∧ a'.ce = a.ce ++ ce ∧ dr ++ ce = pre ++ [Ent.sl false cs] ∧
      ∀ e ∈ pre, ∃ cs', e = Ent.sl true cs' := by
  obtain ⟨dr, ce, pre, cs, hdr, hce, hch, hpre, _⟩ := newSymlink_spec h
  exact ⟨dr, ce, pre, cs, hdr, hce, hch, hpre⟩

/-- a 300-byte component followed by `..` does not fit the directory record and is cut twice -/
example : (newSymlink true { cur := 200 } (List.replicate 300 120 ++ [47, 46, 46])).isSome = true := by decide +kernel

end Pycdlib.Susp

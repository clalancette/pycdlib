/-
Props/C03PtOrder — ECMA-119 6.9.1 for the path table pycdlib writes: the records are ordered by parent directory number
(`parents_sorted`), and no record names a parent that comes after it (`parent_not_later`) — for every directory
hierarchy, whatever the children function.
-/
import Pycdlib.Model.PtOrder
namespace Pycdlib.PtOrder

theorem queue_step (t : List (Nat × Nat)) (ch : List Nat) (n : Nat) :
    (t ++ ch.map (·, n)).map (·.2) = t.map (·.2) ++ List.replicate ch.length n := by
  rw [List.map_append, List.map_map]; exact congrArg _ (List.map_const' ..)

theorem queue_step_le {t : List (Nat × Nat)} {n : Nat} (ch : List Nat) (hn : ∀ x ∈ t.map (·.2), x ≤ n) :
    ∀ x ∈ (t ++ ch.map (·, n)).map (·.2), x ≤ n + 1 := by
  intro x hx
  rw [queue_step, List.mem_append] at hx
  rcases hx with hx | hx
  · exact Nat.le_succ_of_le (hn x hx)
  · exact List.eq_of_mem_replicate hx ▸ Nat.le_succ n

/-- `m` in front is the parent number emitted last: nothing that is still to come lies below it -/
theorem bfs_sorted (children : Nat → List Nat) (fuel : Nat) (q : List (Nat × Nat)) (n m : Nat)
    (hp : (m :: q.map (·.2)).Pairwise (· ≤ ·)) (hn : ∀ x ∈ q.map (·.2), x ≤ n) :
    (m :: (bfs children fuel q n).map (·.2)).Pairwise (· ≤ ·) := by
  fun_induction bfs children fuel q n generalizing m with
  | case1 => simp
  | case2 => simp
  | case3 f d p t n ih =>
    rw [List.map_cons, List.pairwise_cons] at hp
    have hn' : ∀ x ∈ t.map (·.2), x ≤ n := fun x hx => hn x (List.mem_cons_of_mem _ hx)
    -- the children come in with the number `n`, which nothing in the queue exceeds
    have hq : (p :: (t ++ (children d).map (·, n)).map (·.2)).Pairwise (· ≤ ·) := by
      rw [queue_step, ← List.cons_append, List.pairwise_append]
      exact ⟨hp.2, List.pairwise_replicate.2 (Or.inr (Nat.le_refl n)), fun a ha b hb =>
        List.eq_of_mem_replicate hb ▸ hn a ha⟩
    have hrest := ih p hq (queue_step_le _ hn')
    have hmp : m ≤ p := hp.1 p List.mem_cons_self
    rw [List.map_cons, List.pairwise_cons]
    refine ⟨fun y hy => ?_, hrest⟩
    rcases List.mem_cons.1 hy with rfl | hy
    · exact hmp
    · exact Nat.le_trans hmp (List.rel_of_pairwise_cons hrest hy)

/-- **the path table is ordered by parent directory number** (ECMA-119 6.9.1), for every hierarchy -/
theorem parents_sorted (children : Nat → List Nat) (fuel root : Nat) :
    ((table children fuel root).map (·.2)).Pairwise (· ≤ ·) :=
  (List.pairwise_cons.1 (bfs_sorted children fuel [(root, 1)] 1 1 (by simp) (by simp))).2

/-- the k-th record emitted from a state whose head gets number `n` carries a parent number of at most `n + k` (its own
number) -/
theorem bfs_parent_le (children : Nat → List Nat) (fuel : Nat) (q : List (Nat × Nat)) (n : Nat)
    (hn : ∀ x ∈ q.map (·.2), x ≤ n) (k : Nat) (hk : k < (bfs children fuel q n).length) :
    ((bfs children fuel q n)[k]).2 ≤ n + k := by
  fun_induction bfs children fuel q n generalizing k with
  | case1 => simp at hk
  | case2 => simp at hk
  | case3 f d p t n ih =>
    cases k with
    | zero => exact hn p List.mem_cons_self
    | succ j =>
      have := ih (queue_step_le (children d) fun x hx => hn x (List.mem_cons_of_mem _ hx)) j (by simpa using hk)
      simp only [List.getElem_cons_succ]; omega

/-- **no record names a parent that comes after it** -/
theorem parent_not_later (children : Nat → List Nat) (fuel root : Nat) (k : Nat)
    (hk : k < (table children fuel root).length) : ((table children fuel root)[k]).2 ≤ k + 1 := by
  have := bfs_parent_le children fuel [(root, 1)] 1 (by simp) k hk
  unfold table; omega

example : table (fun d => if d = 0 then [1, 2] else if d = 1 then [3] else if d = 2 then [4, 5] else []) 10 0
    = [(0, 1), (1, 1), (2, 1), (3, 2), (4, 3), (5, 3)] := by decide

end Pycdlib.PtOrder

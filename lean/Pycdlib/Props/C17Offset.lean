/-
Props/C17Offset — `offset_is_record` at byte level: the byte offset that `modify_file_in_place` derives for a directory
record from the cached packing state is where the writer of the directory extent (Model/DirBytes.render) put that record.
-/
import Pycdlib.Model.DirBytes
import Pycdlib.Model.Pack
import Pycdlib.Proofs.Bytes
namespace Pycdlib.DirBytes
open Pycdlib

/-- offset of every record from the start of what `render bs off` emits -/
def positions (bs : Nat) (off : Nat) : List Bytes → List Nat
  | [] => []
  | r :: rs =>
    if off + r.length > bs then (bs - off) :: (positions bs r.length rs).map (· + ((bs - off) + r.length))
    else 0 :: (positions bs (off + r.length) rs).map (· + r.length)

theorem positions_length (bs off : Nat) (recs : List Bytes) : (positions bs off recs).length = recs.length := by
  fun_induction positions bs off recs <;> simp [*]

/-- `render` and `positions` walk in step: a gap of `g` zeros (none when the record fits), the record, then on from `n` -/
theorem render_positions_cons (bs off : Nat) (r : Bytes) (rs : List Bytes) :
    ∃ g n, render bs off (r :: rs) = zeros g ++ (r ++ render bs n rs) ∧
      positions bs off (r :: rs) = g :: (positions bs n rs).map (· + (g + r.length)) := by
  simp only [render, positions]
  split
  · exact ⟨bs - off, r.length, List.append_assoc .., rfl⟩
  · exact ⟨0, off + r.length, rfl, by rw [Nat.zero_add]⟩

theorem render_append_at_position (bs : Nat) (recs : List Bytes) (tail : Bytes) :
    ∀ (off k : Nat) (hk : k < recs.length),
      ((render bs off recs ++ tail).drop ((positions bs off recs)[k]'(by rw [positions_length]; exact hk))).take
        (recs[k]).length = recs[k] := by
  induction recs with
  | nil => intro off k hk; simp at hk
  | cons r rs ih =>
    intro off k hk
    obtain ⟨g, n, hren, hpos⟩ := render_positions_cons bs off r rs
    simp only [hren, hpos, List.append_assoc]
    cases k with
    | zero =>
      simp only [List.getElem_cons_zero]
      rw [List.drop_left' (zeros_length g), List.take_left]
    | succ j =>
      simp only [List.getElem_cons_succ, List.getElem_map]
      rw [Nat.add_comm, ← List.drop_drop, ← List.drop_drop, List.drop_left' (zeros_length g), List.drop_left]
      exact ih n j (Nat.lt_of_succ_lt_succ hk)

/-- **the bytes at a record's position are the record** -/
theorem render_at_position (bs : Nat) (recs : List Bytes) :
    ∀ (off k : Nat) (hk : k < recs.length),
      ((render bs off recs).drop ((positions bs off recs)[k]'(by rw [positions_length]; exact hk))).take (recs[k]).length
        = recs[k] := by
  intro off k hk
  simpa using render_append_at_position bs recs [] off k hk

theorem map_add_map_add (l : List Nat) (a b : Nat) : (l.map (· + a)).map (· + b) = l.map (· + (a + b)) := by
  rw [List.map_map]; exact List.map_congr_left fun x _ => Nat.add_assoc x a b

/-- the positions are the writer's placement of Model/Pack (block, offset in block), counted in bytes from the position
the writer starts at -/
theorem positions_eq_place (bs : Nat) (recs : List Bytes) (hl : ∀ r ∈ recs, r.length ≤ bs) :
    ∀ (blk off : Nat), off ≤ bs →
      (positions bs off recs).map (· + (blk * bs + off))
        = (writerPlace bs blk off (recs.map List.length)).map fun p => p.1 * bs + p.2 := by
  induction recs with
  | nil => intro blk off _; rfl
  | cons r rs ih =>
    intro blk off hoff
    have hr := hl r List.mem_cons_self
    have ih' := ih fun x hx => hl x (List.mem_cons_of_mem _ hx)
    simp only [positions, List.map_cons, writerPlace]
    split
    · have e : bs - off + r.length + (blk * bs + off) = (blk + 1) * bs + r.length := by rw [Nat.add_mul]; omega
      rw [List.map_cons, List.map_cons, map_add_map_add, e, ih' (blk + 1) r.length hr]
      exact congrArg (· :: _) (by simp only [Nat.add_mul]; omega)
    · have e : r.length + (blk * bs + off) = blk * bs + (off + r.length) := by omega
      rw [List.map_cons, List.map_cons, map_add_map_add, e, ih' blk (off + r.length) (by omega)]
      exact congrArg (· :: _) (Nat.zero_add _)

/-- **offset_is_record**: in the bytes of a directory extent, at `block * 2048 + offset` as the cached packing state of the
k-th child gives them (`writer_matches_cache`: block = extents_to_here - 1, offset = offset_to_here - dr_len), there is the
k-th child's record — the place `modify_file_in_place` patches is the record it means to patch
(`1 ≤ r.length` is not needed) -/
theorem offset_is_record (recs : List Bytes) (extra : Nat) (hl : ∀ r ∈ recs, 1 ≤ r.length ∧ r.length ≤ 2048)
    (k : Nat) (hk : k < recs.length) :
    let place := writerPlace 2048 0 0 (recs.map List.length)
    ∀ (hp : k < place.length),
      ((renderDir 2048 recs extra).drop ((place[k]).1 * 2048 + (place[k]).2)).take (recs[k]).length = recs[k] := by
  intro place hp
  have hpos := List.getElem_of_eq (positions_eq_place 2048 recs (fun r hr => (hl r hr).2) 0 0 (Nat.zero_le _)) (i := k)
    (by rw [List.length_map, positions_length]; exact hk)
  simp only [List.getElem_map, Nat.zero_mul, Nat.add_zero] at hpos
  rw [← hpos]
  exact render_append_at_position 2048 recs _ 0 k hk

end Pycdlib.DirBytes

/-
Props/C10Names — UDF names: one name, one identifier; a lookup finds the entry that carries the name and no other
(C10 fidelity of UDF names, C13 uniqueness, C02 "no entry other than the one addressed is affected").
-/
import Pycdlib.Model.UdfNames
namespace Pycdlib.UdfNames

/-- the first unit tells the two forms apart: a scalar below 0x10000 is not a surrogate -/
theorem units16Of_prefix (a b : Nat) (ha : isScalar a = true) (hb : isScalar b = true) (x y : List Nat)
    (h : units16Of a ++ x = units16Of b ++ y) : a = b ∧ x = y := by
  simp only [isScalar, Bool.or_eq_true, Bool.and_eq_true, decide_eq_true_eq] at ha hb
  unfold units16Of at h
  split at h <;> split at h <;>
    simp only [List.cons_append, List.nil_append, List.cons.injEq] at h
  · exact h
  · omega
  · omega
  · exact ⟨by omega, h.2.2⟩

theorem units16_injective (n m : List Nat) (hn : ∀ c ∈ n, isScalar c = true) (hm : ∀ c ∈ m, isScalar c = true)
    (h : units16 n = units16 m) : n = m := by
  have ne_nil (c : Nat) (l : List Nat) : units16Of c ++ l ≠ [] := by unfold units16Of; split <;> simp
  induction n generalizing m with
  | nil =>
    cases m with
    | nil => rfl
    | cons b bs => exact absurd h.symm (ne_nil b _)
  | cons a as ih =>
    cases m with
    | nil => exact absurd h (ne_nil a _)
    | cons b bs =>
      obtain ⟨rfl, e⟩ := units16Of_prefix a b (hn a List.mem_cons_self) (hm b List.mem_cons_self) _ _ h
      rw [ih bs (fun c hc => hn c (List.mem_cons_of_mem _ hc)) (fun c hc => hm c (List.mem_cons_of_mem _ hc)) e]

/-- two names with the same File Identifier (encoding and content) are the same name -/
theorem identOf_injective (n m : List Nat) (hn : ∀ c ∈ n, isScalar c = true) (hm : ∀ c ∈ m, isScalar c = true)
    (h : identOf n = identOf m) : n = m := by
  unfold identOf at h
  split at h <;> split at h
  · exact congrArg Ident.units h
  · cases h
  · cases h
  · exact units16_injective n m hn hm (congrArg Ident.units h)

/-- **a lookup finds the entry that carries the name, and no other**: for every pair of names, in particular for a
UTF-16 name whose bytes read as latin-1 spell another name -/
theorem lookup_own_name (n q : List Nat) (hn : ∀ c ∈ n, isScalar c = true) (hq : ∀ c ∈ q, isScalar c = true) :
    matches_ (identOf n) q = true ↔ q = n := by
  unfold identOf
  split
  · next h1 =>
    simp only [matches_, Bool.and_eq_true, beq_iff_eq]
    exact ⟨fun h => h.2.symm, fun h => h.symm ▸ ⟨h1, rfl⟩⟩
  · simp only [matches_, beq_iff_eq]
    exact ⟨fun h => (units16_injective n q hn hq h).symm, fun h => h.symm ▸ rfl⟩

/-- **the witness of the repaired defect**, in bytes as the old code compared them: the latin-1 identifier `ab`
(bytes 61 62) and the query U+6162, whose UTF-16BE bytes are 61 62 — the old comparison says "same name". -/
theorem old_rule_cross_encoding_collision :
    let latin1Bytes : List Nat := [0x61, 0x62]                       -- the stored identifier 'ab'
    let queryUtf16Bytes : List Nat := [0x6162 / 256, 0x6162 % 256]   -- U+6162 as UTF-16BE
    latin1Bytes = queryUtf16Bytes ∧ matches_ (identOf [0x61, 0x62]) [0x6162] = false := by
  decide

end Pycdlib.UdfNames

/-
Proofs/Dates — calendar lemmas behind C19.
-/
import Pycdlib.Model.Dates
namespace Pycdlib

theorem yearDoy_round (d : Int) : daysOfYear (yearDoy d).1 + (yearDoy d).2 = d := by
  unfold daysOfYear yearDoy
  simp only
  split <;> simp only <;> split <;> omega

theorem yearDoy_range (d : Int) :
    0 ≤ (yearDoy d).2 ∧ (yearDoy d).2 < (if isLeap (yearDoy d).1 then 366 else 365) := by
  unfold yearDoy isLeap
  simp only
  split <;> simp only [decide_eq_true_eq] <;> split <;> omega

/-- consecutive days: same year and next day-of-year, or the first day of the next year -/
theorem yearDoy_step (d : Int) :
    ((yearDoy (d + 1)).1 = (yearDoy d).1 ∧ (yearDoy (d + 1)).2 = (yearDoy d).2 + 1) ∨
    ((yearDoy (d + 1)).1 = (yearDoy d).1 + 1) := by
  unfold yearDoy
  simp only
  split <;> split <;> simp only <;> omega

def MonthOk (leap : Bool) (doy : Int) : Prop :=
  1 ≤ monthOfDoy leap doy ∧ monthOfDoy leap doy ≤ 12 ∧ cumDays leap (monthOfDoy leap doy) ≤ doy ∧
      doy - cumDays leap (monthOfDoy leap doy) < 31

instance (leap : Bool) (doy : Int) : Decidable (MonthOk leap doy) := by unfold MonthOk; infer_instance

theorem month_round_fin :
    ∀ (leap : Bool) (k : Fin 366), k.val < (if leap then 366 else 365) → MonthOk leap (k.val : Int) := by
  decide +kernel

theorem month_round (leap : Bool) (doy : Int) (h0 : 0 ≤ doy) (h1 : doy < (if leap then 366 else 365)) :
    MonthOk leap doy := by
  obtain ⟨k, rfl⟩ := Int.eq_ofNat_of_zero_le h0
  have hk : k < (if leap then 366 else 365) := by cases leap <;> exact Int.ofNat_lt.mp h1
  exact month_round_fin leap ⟨k, by split at hk <;> omega⟩ hk

/-- the date fields of `civil t` denote the day number of `t` -/
theorem civil_days (t : Int) :
    daysOfYmd (civil t).year (civil t).mon (civil t).mday = t / 86400 := by
  unfold civil daysOfYmd
  simp only
  have h := yearDoy_round (t / 86400)
  omega

theorem civil_fields (t : Int) :
    let c := civil t
    1 ≤ c.mon ∧ c.mon ≤ 12 ∧ 1 ≤ c.mday ∧ c.mday ≤ 31 ∧ 0 ≤ c.hour ∧ c.hour < 24 ∧
    0 ≤ c.min ∧ c.min < 60 ∧ 0 ≤ c.sec ∧ c.sec < 60 ∧
    c.hour * 3600 + c.min * 60 + c.sec = t % 86400 := by
  have hr := yearDoy_range (t / 86400)
  have hm := month_round (isLeap (yearDoy (t / 86400)).1) (yearDoy (t / 86400)).2 hr.1 hr.2
  unfold MonthOk at hm
  unfold civil
  simp only
  refine ⟨hm.1, hm.2.1, by omega, by omega, by omega, by omega, by omega, by omega, by omega, by omega, by omega⟩

theorem civil_year_range (t : Int) (h0 : 0 ≤ t) (h1 : t < 4102444800) :
    1970 ≤ (civil t).year ∧ (civil t).year ≤ 2099 := by
  unfold civil yearDoy
  simp only
  split <;> simp only <;> omega

end Pycdlib

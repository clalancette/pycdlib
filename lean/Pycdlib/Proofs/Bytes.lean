/-
Proofs/Bytes — round trips of the ECMA-119 section 7 integer encodings.
-/
import Pycdlib.Model.Bytes
namespace Pycdlib

theorem u8_toNat' (n : Nat) : (u8 n).toNat = n % 256 := by
  unfold u8; simp [UInt8.toNat_ofNat']

theorem u8_toNat_of_lt {n : Nat} (h : n < 256) : (u8 n).toNat = n := by
  rw [u8_toNat', Nat.mod_eq_of_lt h]

@[simp] theorem leN_length (k n : Nat) : (leN k n).length = k := by
  induction k generalizing n with
  | zero => rfl
  | succ k ih => simp [leN, ih]

@[simp] theorem beN_length (k n : Nat) : (beN k n).length = k := by simp [beN]

theorem ofLE_leN (k n : Nat) (h : n < 256 ^ k) : ofLE (leN k n) = n := by
  induction k generalizing n with
  | zero => simp [leN, ofLE]; omega
  | succ k ih =>
    simp only [leN, ofLE, u8_toNat']
    rw [ih]
    · omega
    · rw [Nat.pow_succ] at h; omega

theorem ofBE_beN (k n : Nat) (h : n < 256 ^ k) : ofBE (beN k n) = n := by
  unfold ofBE beN; rw [List.reverse_reverse]; exact ofLE_leN k n h

@[simp] theorem both16_length (n : Nat) : (both16 n).length = 4 := by simp [both16, le16, be16]
@[simp] theorem both32_length (n : Nat) : (both32 n).length = 8 := by simp [both32, le32, be32]

theorem decBoth16_both16 (n : Nat) (h : n < 65536) : decBoth16 (both16 n) = some n := by
  simp only [decBoth16, both16, le16, be16, List.take_left' (leN_length 2 n), List.drop_left' (leN_length 2 n),
    ofLE_leN 2 n h, ofBE_beN 2 n h, List.length_append, leN_length, beN_length, and_self, if_true]

theorem decBoth32_pair (a b : Nat) (ha : a < 2 ^ 32) (hb : b < 2 ^ 32) :
    decBoth32 (le32 a ++ be32 b) = if a = b then some a else none := by
  simp only [decBoth32, le32, be32, List.take_left' (leN_length 4 a), List.drop_left' (leN_length 4 a),
    ofLE_leN 4 a ha, ofBE_beN 4 b hb, List.length_append, leN_length, beN_length, true_and]

theorem decBoth32_both32 (n : Nat) (h : n < 2 ^ 32) : decBoth32 (both32 n) = some n :=
  (decBoth32_pair n n h h).trans (if_pos rfl)

/-- a reader that insists on agreement rejects a both-endian field whose halves differ -/
theorem decBoth32_rejects (a b : Nat) (ha : a < 2 ^ 32) (hb : b < 2 ^ 32) (hne : a ≠ b) :
    decBoth32 (le32 a ++ be32 b) = none :=
  (decBoth32_pair a b ha hb).trans (if_neg hne)

@[simp] theorem zeros_length (n : Nat) : (zeros n).length = n := by simp [zeros]

theorem zeros_succ (n : Nat) : zeros (n + 1) = 0 :: zeros n := rfl

theorem zeros_append (m n : Nat) : zeros m ++ zeros n = zeros (m + n) := by simp [zeros]

theorem drop_zeros (n k : Nat) : (zeros n).drop k = zeros (n - k) := by simp [zeros]

end Pycdlib

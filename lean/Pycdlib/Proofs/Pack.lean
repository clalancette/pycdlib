/-
Proofs/Pack — next-fit lemmas (used by C03, C04, C17).
-/
import Pycdlib.Model.Pack
namespace Pycdlib

theorem nfFold_append (bs : Nat) (st : NF) (a b : List Nat) :
    nfFold bs st (a ++ b) = nfFold bs (nfFold bs st a) b := List.foldl_append

theorem nfFold_cons (bs : Nat) (st : NF) (l : Nat) (ls : List Nat) :
    nfFold bs st (l :: ls) = nfFold bs (nfStep bs st l) ls := rfl

/-- the cache of the last child is the packing state of the whole list -/
theorem nfScan_getLast (bs : Nat) (st : NF) (ls : List Nat) (h : ls ≠ []) :
    (nfScan bs st ls).getLast? = some (nfFold bs st ls) := by
  induction ls generalizing st with
  | nil => exact absurd rfl h
  | cons l ls ih =>
    cases ls with
    | nil => simp [nfScan, nfFold]
    | cons m ms =>
      have := ih (nfStep bs st l) (by simp)
      simp only [nfScan] at this ⊢
      rw [List.getLast?_cons_cons]
      exact this

/-- recalculating from index `k` with a correct cache for the first `k` children gives the from-scratch cache -/
theorem nfScan_append (bs : Nat) (st : NF) (a b : List Nat) :
    nfScan bs st (a ++ b) = nfScan bs st a ++ nfScan bs (nfFold bs st a) b := by
  induction a generalizing st with
  | nil => rfl
  | cons l ls ih => simp [nfScan, nfFold_cons, ih]

theorem nfStep_off_le (bs : Nat) (st : NF) (l : Nat) (hl : l ≤ bs) : (nfStep bs st l).2 ≤ bs := by
  unfold nfStep; split
  · exact hl
  · next h => exact Nat.le_of_not_gt h

theorem nfFold_off_le (bs : Nat) (st : NF) (ls : List Nat) (hl : ∀ l ∈ ls, l ≤ bs) (hs : st.2 ≤ bs) :
    (nfFold bs st ls).2 ≤ bs := by
  induction ls generalizing st with
  | nil => exact hs
  | cons l ls ih =>
    rw [nfFold_cons]
    exact ih _ (fun x hx => hl x (List.mem_cons_of_mem _ hx)) (nfStep_off_le bs st l (hl l List.mem_cons_self))

theorem nfStep_mono (bs : Nat) (st : NF) (l : Nat) : st.1 ≤ (nfStep bs st l).1 := by
  unfold nfStep; split <;> simp

theorem nfFold_mono (bs : Nat) (st : NF) (ls : List Nat) : st.1 ≤ (nfFold bs st ls).1 := by
  induction ls generalizing st with
  | nil => exact Nat.le_refl _
  | cons l ls ih => rw [nfFold_cons]; exact Nat.le_trans (nfStep_mono bs st l) (ih _)

theorem nfFold_shift (bs : Nat) (ls : List Nat) (e o k : Nat) :
    nfFold bs (e + k, o) ls = ((nfFold bs (e, o) ls).1 + k, (nfFold bs (e, o) ls).2) := by
  induction ls generalizing e o with
  | nil => rfl
  | cons l ls ih =>
    simp only [nfFold_cons, nfStep]
    split
    · rw [Nat.add_right_comm]; exact ih (e + 1) l
    · exact ih e (o + l)

/-- coupling relation between a packing run `a` and the same run with one extra record inserted earlier (`b`) -/
def Coupled (a b : NF) : Prop :=
  (b.1 = a.1 ∧ a.2 ≤ b.2) ∨ (b.1 = a.1 + 1 ∧ b.2 ≤ a.2)

theorem coupled_step (bs : Nat) (a b : NF) (l : Nat) (h : Coupled a b) :
    Coupled (nfStep bs a l) (nfStep bs b l) := by
  unfold Coupled nfStep at *
  -- the run further into its block overflows first; if only it does, it gains a block and is then less far in
  rcases h with ⟨h1, h2⟩ | ⟨h1, h2⟩
  · by_cases hb : b.2 + l > bs
    · by_cases ha : a.2 + l > bs
      · rw [if_pos ha, if_pos hb]; exact .inl ⟨by rw [h1], Nat.le_refl l⟩
      · rw [if_neg ha, if_pos hb]; exact .inr ⟨by rw [h1], Nat.le_add_left l _⟩
    · rw [if_neg hb, if_neg (by omega)]; exact .inl ⟨h1, Nat.add_le_add_right h2 l⟩
  · by_cases ha : a.2 + l > bs
    · by_cases hb : b.2 + l > bs
      · rw [if_pos ha, if_pos hb]; exact .inr ⟨by rw [h1], Nat.le_refl l⟩
      · rw [if_pos ha, if_neg hb]; exact .inl ⟨h1, Nat.le_add_left l _⟩
    · rw [if_neg ha, if_neg (by omega)]; exact .inr ⟨h1, Nat.add_le_add_right h2 l⟩

theorem coupled_fold (bs : Nat) (a b : NF) (ls : List Nat) (h : Coupled a b) :
    Coupled (nfFold bs a ls) (nfFold bs b ls) := by
  induction ls generalizing a b with
  | nil => exact h
  | cons l ls ih => rw [nfFold_cons, nfFold_cons]; exact ih _ _ (coupled_step bs a b l h)

/-- **insertion grows the packing by at most one block** (the inserted record is at most half a block) -/
theorem insert_grows_le_one (bs : Nat) (pre suf : List Nat) (x : Nat) (hx : 2 * x ≤ bs) :
    (nextFit bs (pre ++ x :: suf)).1 ≤ (nextFit bs (pre ++ suf)).1 + 1 ∧
    (nextFit bs (pre ++ suf)).1 ≤ (nextFit bs (pre ++ x :: suf)).1 := by
  unfold nextFit
  rw [nfFold_append, nfFold_append, nfFold_cons]
  generalize nfFold bs (1, 0) pre = st
  have hc : Coupled st (nfStep bs st x) := by
    unfold Coupled nfStep
    split
    · -- `x` opens a new block; `2 * x ≤ bs < st.2 + x`, so it is less far into it than `st` is into the block left
      right; simp; omega
    · left; simp
  have := coupled_fold bs st (nfStep bs st x) suf hc
  unfold Coupled at this
  omega

/-- `insert_grows_le_one` is false without the size bound -/
theorem insert_grows_counterexample :
    (nextFit 10 ([3] ++ 8 :: [5])).1 = (nextFit 10 ([3] ++ [5])).1 + 2 := by decide

/-- the writer's placement is exactly the cached (extents_to_here − 1, offset_to_here − len) -/
theorem writer_matches_cache (bs : Nat) (st : NF) (ls : List Nat) :
    writerPlace bs st.1 st.2 ls =
      (List.zip (nfScan bs st ls) ls).map fun (c, l) => (c.1, c.2 - l) := by
  induction ls generalizing st with
  | nil => rfl
  | cons l ls ih =>
    simp only [writerPlace, nfScan, List.zip_cons_cons, List.map_cons, ← ih, nfStep]
    split <;> simp

theorem writer_no_straddle (bs : Nat) (blk off : Nat) (ls : List Nat) (hl : ∀ l ∈ ls, l ≤ bs) (ho : off ≤ bs) :
    ∀ p ∈ List.zip (writerPlace bs blk off ls) ls, p.1.2 + p.2 ≤ bs := by
  induction ls generalizing blk off with
  | nil => simp [writerPlace]
  | cons l ls ih =>
    have hl' := hl l List.mem_cons_self
    have hls := fun x hx => hl x (List.mem_cons_of_mem l hx)
    rw [writerPlace]
    split <;> rw [List.zip_cons_cons, List.forall_mem_cons]
    · exact ⟨show 0 + l ≤ bs by omega, ih (blk + 1) l hls hl'⟩
    · exact ⟨show off + l ≤ bs by omega, ih blk (off + l) hls (by omega)⟩

/-- directory length invariant is kept by `_add_child`'s growth rule -/
theorem grow_keeps_fit (bs dataLen old new : Nat) (hfit : old * bs ≤ dataLen) (hstep : new ≤ old + 1) :
    new * bs ≤ (growLen bs dataLen new).1 := by
  unfold growLen
  split
  · simp only
    have : new * bs ≤ (old + 1) * bs := Nat.mul_le_mul_right bs hstep
    rw [Nat.add_mul, Nat.one_mul] at this
    omega
  · simp only; omega

/-- … and by `remove_child`'s shrink rule (`hbs` and `h1` are not needed) -/
theorem shrink_keeps_fit (bs dataLen : Nat) (st : NF) (k : Nat) (hk : dataLen = k * bs) (hbs : 0 < bs)
    (hfit : st.1 * bs ≤ dataLen) (h1 : 1 ≤ st.1) :
    st.1 * bs ≤ (shrinkLen bs dataLen st).1 ∧ ∃ k', (shrinkLen bs dataLen st).1 = k' * bs := by
  unfold shrinkLen
  simp only
  split
  · next h =>
    subst hk
    -- more than a block is unused, so fewer than `k` blocks are in use
    have hlt : st.1 * bs < k * bs := by
        rw [Nat.sub_one_mul] at h; omega
    have hle := Nat.mul_le_mul_right bs (Nat.le_sub_one_of_lt (Nat.lt_of_mul_lt_mul_right hlt))
    rw [Nat.sub_one_mul] at hle
    exact ⟨hle, k - 1, (Nat.sub_one_mul k bs).symm⟩
  · exact ⟨hfit, k, hk⟩

theorem growLen_blocks (bs dataLen extents : Nat) :
    ∃ k, (growLen bs dataLen extents).1 = dataLen + k * bs ∧
      (if (growLen bs dataLen extents).2 then bs else 0) = k * bs := by
  unfold growLen; split
  · exact ⟨1, by rw [Nat.one_mul], (Nat.one_mul _).symm⟩
  · exact ⟨0, by rw [Nat.zero_mul]; rfl, (Nat.zero_mul _).symm⟩

theorem shrinkLen_blocks (bs dataLen : Nat) (st : NF) :
    ∃ k, (shrinkLen bs dataLen st).1 + k * bs = dataLen ∧
      (if (shrinkLen bs dataLen st).2 then bs else 0) = k * bs := by
  unfold shrinkLen; simp only; split
  · exact ⟨1, by rw [Nat.one_mul]; exact Nat.sub_add_cancel (by omega), (Nat.one_mul _).symm⟩
  · exact ⟨0, by rw [Nat.zero_mul]; rfl, (Nat.zero_mul _).symm⟩

end Pycdlib

/-
Proofs/Names — what `splitLast` and `splitIsoFilename` do on every input.
-/
import Pycdlib.Model.Names
namespace Pycdlib

theorem splitLast_eq_none {α : Type} [DecidableEq α] (c : α) (l : List α) :
    splitLast c l = none ↔ c ∉ l := by
  induction l with
  | nil => simp [splitLast]
  | cons x xs ih =>
    rw [splitLast, List.mem_cons, not_or, ← ih]
    cases splitLast c xs <;> simp [eq_comm]

theorem splitLast_append_cons {α : Type} [DecidableEq α] {c : α} {post : List α} (h : c ∉ post)
    (pre : List α) : splitLast c (pre ++ c :: post) = some (pre, post) := by
  induction pre with
  | nil => simp [splitLast, (splitLast_eq_none c post).mpr h]
  | cons x xs ih => simp [splitLast, ih]

theorem splitLast_sound {α : Type} [DecidableEq α] {c : α} {l pre post : List α}
    (h : splitLast c l = some (pre, post)) : l = pre ++ c :: post ∧ c ∉ post := by
  induction l generalizing pre with
  | nil => simp [splitLast] at h
  | cons x xs ih =>
    rw [splitLast] at h
    split at h
    · next hs => cases h; exact ⟨congrArg (x :: ·) (ih hs).1, (ih hs).2⟩
    · next hs =>
      split at h
      · next hx => cases h; exact ⟨by rw [hx]; rfl, (splitLast_eq_none c _).mp hs⟩
      · cases h

theorem splitLast_eq_some {α : Type} [DecidableEq α] (c : α) (l pre post : List α) :
    splitLast c l = some (pre, post) ↔ l = pre ++ c :: post ∧ c ∉ post :=
  ⟨splitLast_sound, fun ⟨hl, hp⟩ => hl ▸ splitLast_append_cons hp pre⟩

/-- The step `_split_iso9660_filename` takes twice (for `;`, then for `.`): cut off what follows the last `c`;
without a `c` the tail is empty. -/
def splitTail {α : Type} [DecidableEq α] (c : α) (l : List α) : List α × List α :=
  (splitLast c l).getD (l, [])

theorem splitTail_eq_iff {α : Type} [DecidableEq α] {c : α} {l a b : List α} :
    splitTail c l = (a, b) ↔
      ∃ has : Bool, l = a ++ (if has then c :: b else []) ∧ c ∉ b ∧ (has = false → b = [] ∧ c ∉ a) := by
  unfold splitTail
  constructor
  · cases h : splitLast c l with
    | some p => rintro ⟨⟩; exact ⟨true, by simpa using splitLast_sound h⟩
    | none => rintro ⟨⟩; exact ⟨false, by simpa using (splitLast_eq_none c l).mp h⟩
  · rintro ⟨_ | _, rfl, hb, ha⟩
    · obtain ⟨rfl, hc⟩ := ha rfl
      simp [(splitLast_eq_none c a).mpr hc]
    · simp [splitLast_append_cons hb a]

theorem splitIsoFilename_eq (n : Bytes) :
    splitIsoFilename n = ((splitTail cDot (splitTail cSemi n).1).1, (splitTail cDot (splitTail cSemi n).1).2,
      (splitTail cSemi n).2) := by
  unfold splitIsoFilename splitTail
  cases splitLast cSemi n <;> simp only [Option.getD] <;> cases splitLast cDot _ <;> rfl

/-- A `;` before the last one stays in the name or extension (and `_check_iso9660_filename` then refuses). -/
theorem splitIso_eq_iff (n name ext ver : Bytes) :
    splitIsoFilename n = (name, ext, ver) ↔ ∃ hasDot hasSemi : Bool,
      n = name ++ (if hasDot then cDot :: ext else []) ++ (if hasSemi then cSemi :: ver else []) ∧
      (hasDot = false → ext = [] ∧ cDot ∉ name) ∧ cDot ∉ ext ∧
      (hasSemi = false → ver = [] ∧ cSemi ∉ name ∧ cSemi ∉ ext) ∧ cSemi ∉ ver := by
  have semi (hasDot : Bool) (hd : hasDot = false → ext = [] ∧ cDot ∉ name) :
      cSemi ∉ name ++ (if hasDot then cDot :: ext else []) ↔ cSemi ∉ name ∧ cSemi ∉ ext := by
    cases hasDot
    · simp [(hd rfl).1]
    · simp [show cSemi ≠ cDot by decide]
  rw [splitIsoFilename_eq]
  constructor
  · rintro ⟨⟩
    obtain ⟨hasSemi, hn, hv, hs⟩ := splitTail_eq_iff.mp (rfl : splitTail cSemi n = (_, _))
    obtain ⟨hasDot, hr, he, hd⟩ := splitTail_eq_iff.mp (rfl : splitTail cDot (splitTail cSemi n).1 = (_, _))
    exact ⟨hasDot, hasSemi, hr ▸ hn, hd, he, fun h => ⟨(hs h).1, (semi hasDot hd).mp (hr ▸ (hs h).2)⟩, hv⟩
  · rintro ⟨hasDot, hasSemi, rfl, hd, he, hs, hv⟩
    rw [splitTail_eq_iff.mpr ⟨hasSemi, rfl, hv, fun h => ⟨(hs h).1, (semi hasDot hd).mpr (hs h).2⟩⟩,
      splitTail_eq_iff.mpr ⟨hasDot, rfl, he, hd⟩]

end Pycdlib

/-
Proofs/PyCast — the translated code (Pycdlib/Generated) computes with Python's `int`; applied to natural numbers it stays
in the natural numbers.  This module says so operator by operator (`…_cast`) and collects these statements, with the
core lemmas of the same kind, in the simp set `py_cast`: it moves the cast `Nat → Int` outwards through a translated
expression (literals included) and turns the comparisons into comparisons in `Nat`, so that a translated function
applied to casts becomes the cast of an expression over `Nat` — which is then the model's, case by case.
Subtraction is not in the set: `↑a - ↑b` is `↑(a - b)` only where `b ≤ a`, which a tie gives `Int.natCast_sub` for,
place by place.  The set also writes `≠` as `¬ =` and `decide p = true` as `p` on BOTH sides of a tie, so that the two
sides meet.  Props/Tie adds `ceiling_div_cast` (the translated `utils.ceiling_div`) to the set.
-/
import Pycdlib.Model.PyOps
import Pycdlib.Proofs.PyCastAttr
namespace Pycdlib
open Pycdlib.PyOps

/-- Python's `//` and `%` with a non-negative divisor are Lean's `/` and `%` on `Int` -/
theorem pyFloorDiv_of_nonneg (a : Int) {b : Int} (hb : 0 ≤ b) : pyFloorDiv a b = a / b := Int.fdiv_eq_ediv_of_nonneg a hb
theorem pyMod_of_nonneg (a : Int) {b : Int} (hb : 0 ≤ b) : pyMod a b = a % b := Int.fmod_eq_emod_of_nonneg a hb

theorem pyFloorDiv_cast (a b : Nat) : pyFloorDiv (a : Int) (b : Int) = ((a / b : Nat) : Int) := by
  rw [pyFloorDiv_of_nonneg _ (Int.natCast_nonneg b), Int.natCast_ediv]

theorem pyMod_cast (a b : Nat) : pyMod (a : Int) (b : Int) = ((a % b : Nat) : Int) := by
  rw [pyMod_of_nonneg _ (Int.natCast_nonneg b), Int.natCast_emod]

theorem pyShr_cast (a k : Nat) : pyShr (a : Int) (k : Int) = ((a / 2 ^ k : Nat) : Int) := by
  rw [pyShr, Int.toNat_natCast, ← pyFloorDiv, ← pyFloorDiv_cast, Int.natCast_pow]; rfl

theorem pyShl_cast (a k : Nat) : pyShl (a : Int) (k : Int) = ((a * 2 ^ k : Nat) : Int) := by
  rw [pyShl, Int.toNat_natCast, Int.natCast_mul, Int.natCast_pow]; rfl

theorem pyAnd_cast (a b : Nat) : pyAnd (a : Int) (b : Int) = ((a &&& b : Nat) : Int) := by simp [pyAnd]
theorem pyXor_cast (a b : Nat) : pyXor (a : Int) (b : Int) = ((a ^^^ b : Nat) : Int) := by simp [pyXor]
theorem pyIndex_cast (t : List Nat) (i : Nat) : pyIndex t (i : Int) = ((t.getD i 0 : Nat) : Int) := by simp [pyIndex]

theorem natCast_ite (c : Prop) [Decidable c] (a b : Nat) :
    (if c then (a : Int) else (b : Int)) = ((if c then a else b : Nat) : Int) := (apply_ite _ c a b).symm

theorem natCast_min (a b : Nat) : min (a : Int) (b : Int) = ((min a b : Nat) : Int) := by omega

attribute [py_cast] pyFloorDiv_cast pyMod_cast pyShr_cast pyShl_cast pyAnd_cast pyXor_cast pyIndex_cast natCast_ite
  natCast_min Int.ofNat_lt Int.natCast_inj ne_eq decide_eq_true_eq Bool.and_eq_true
attribute [py_cast ←] Int.natCast_add Int.natCast_mul Int.cast_ofNat_Int

end Pycdlib

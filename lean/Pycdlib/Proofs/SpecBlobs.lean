/-
Proofs/SpecBlobs — the specification's content store: every file entry has its content, every stored content is
referred to by a name or a boot entry, content ids are unique.  Kept by every operation except `reopen`, which renumbers
zero-length contents: across it the invariant is not proved (Props/C07Store).
-/
import Pycdlib.Proofs.SpecInv
namespace Pycdlib.Spec

def BlobInv (s : State) : Prop :=
  (∀ e ∈ s.entries, ∀ b, e.node = Node.file b → ∃ bl ∈ s.blobs, bl.id = b) ∧
  (∀ bl ∈ s.blobs, s.refs bl.id > 0) ∧
  (∀ bl ∈ s.blobs, bl.id < s.next) ∧
  (s.blobs.map (·.id)).Nodup

def fileCount (es : List Entry) (b : Nat) : Nat := (es.filter fun e => e.node = Node.file b).length

theorem fileCount_pos_iff {es : List Entry} {b : Nat} : 0 < fileCount es b ↔ ∃ e ∈ es, e.node = Node.file b := by
  simp only [fileCount, List.length_filter_pos_iff, decide_eq_true_eq]

theorem fileCount_append (es es' : List Entry) (b : Nat) : fileCount (es ++ es') b = fileCount es b + fileCount es' b := by
  simp only [fileCount, List.filter_append, List.length_append]

theorem fileCount_filter {es : List Entry} {keep : Entry → Bool} {b : Nat}
    (h : ∀ e ∈ es, e.node = Node.file b → keep e = true) : fileCount (es.filter keep) b = fileCount es b :=
  congrArg List.length (filter_filter_of_imp fun e he hb => h e he (of_decide_eq_true hb))

theorem fileCount_map {es : List Entry} {f : Entry → Entry} (b : Nat) (hf : ∀ e, (f e).node = e.node) :
    fileCount (es.map f) b = fileCount es b := by
  unfold fileCount
  rw [List.filter_map, List.length_map]
  exact congrArg _ (List.filter_congr fun e _ => by simp only [Function.comp, hf e])

theorem fileCount_nonfile (es' : List Entry) (b : Nat) (h : ∀ e ∈ es', ∀ c, e.node ≠ Node.file c) : fileCount es' b = 0 :=
  Nat.eq_zero_of_not_pos fun hp => let ⟨e, he, hb⟩ := fileCount_pos_iff.mp hp; h e he b hb

/-- the store invariant sees the entries only through which contents they name -/
theorem blobInv_entries {s : State} {es' : List Entry} (hi : BlobInv s)
    (hn : ∀ b, (∃ e ∈ es', e.node = Node.file b) ↔ ∃ e ∈ s.entries, e.node = Node.file b) :
    BlobInv { s with entries := es' } := by
  obtain ⟨h1, h2, h3, h4⟩ := hi
  refine ⟨fun e he b hb => ?_, fun bl hbl => refs_pos_iff.mpr ?_, h3, h4⟩
  · obtain ⟨e₀, he₀, hb₀⟩ := (hn b).mp ⟨e, he, hb⟩
    exact h1 e₀ he₀ b hb₀
  · exact (refs_pos_iff.mp (h2 bl hbl)).imp (hn _).mpr id

theorem blobInv_congr {s : State} {es' : List Entry} (hi : BlobInv s)
    (h : ∀ b, fileCount es' b = fileCount s.entries b) : BlobInv { s with entries := es' } :=
  blobInv_entries hi fun b => by rw [← fileCount_pos_iff, ← fileCount_pos_iff, h b]

theorem gc_inv {s : State} {es' : List Entry} (hi : BlobInv s) (hsub : es' ⊆ s.entries) :
    BlobInv ({ s with entries := es' }).gc := by
  obtain ⟨h1, -, h3, h4⟩ := hi
  refine ⟨fun e he b hb => ?_, fun _ hbl => (mem_gc_blobs.mp hbl).2, fun bl hbl => h3 bl (mem_gc_blobs.mp hbl).1,
    ((List.filter_sublist).map _).nodup h4⟩
  obtain ⟨bl, hbl, rfl⟩ := h1 e (hsub he) b hb
  exact ⟨bl, mem_gc_blobs.mpr ⟨hbl, refs_pos_iff.mpr (.inl ⟨e, he, hb⟩)⟩, rfl⟩

theorem step_blob_inv {s s' : State} {op : Op} (hop : op ≠ Op.reopen) (htree : TreeInv s) (hi : BlobInv s)
    (h : step s op = some s') : BlobInv s' := by
  cases step_some h with
  | reopen => exact absurd rfl hop
  | addFp hne =>
    obtain ⟨h1, h2, h3, h4⟩ := hi
    refine ⟨fun e he b hb => ?_, fun bl hbl => refs_pos_iff.mpr ?_, fun bl hbl => ?_, ?_⟩
    · rcases List.mem_append.mp he with he | he
      · obtain ⟨bl, hbl, hid⟩ := h1 e he b hb
        exact ⟨bl, List.mem_append_left _ hbl, hid⟩
      · obtain ⟨t, _, rfl⟩ := List.mem_map.mp he
        exact ⟨_, List.mem_append_right _ (List.mem_singleton.mpr rfl), Node.file.inj hb⟩
    · rcases List.mem_append.mp hbl with hbl | hbl
      · exact (refs_pos_iff.mp (h2 bl hbl)).imp (fun ⟨e, he, hb⟩ => ⟨e, List.mem_append_left _ he, hb⟩) id
      · -- the new content is named by the entry of the first target
        cases List.mem_singleton.mp hbl
        obtain ⟨t, ht⟩ := List.exists_mem_of_ne_nil _ hne
        exact .inl ⟨_, List.mem_append_right _ (List.mem_map_of_mem ht), rfl⟩
    · rcases List.mem_append.mp hbl with hbl | hbl
      · exact Nat.lt_succ_of_lt (h3 bl hbl)
      · cases List.mem_singleton.mp hbl; exact Nat.lt_succ_self _
    · rw [List.map_append, List.nodup_append]
      refine ⟨h4, List.pairwise_singleton _ _, fun x hx y hy hxy => ?_⟩
      obtain ⟨bl, hbl, rfl⟩ := List.mem_map.mp hx
      cases List.mem_singleton.mp hy
      exact Nat.lt_irrefl _ (hxy ▸ h3 bl hbl)
  | addDir | addSymlink =>
    refine blobInv_congr hi fun b => ?_
    rw [fileCount_append]
    refine Nat.add_eq_left.mpr (fileCount_nonfile _ b fun e he c hc => ?_)
    obtain ⟨t, _, rfl⟩ := List.mem_map.mp he
    cases hc
  | addLink hf hn =>
    refine blobInv_entries hi fun c =>
      ⟨fun ⟨x, hx, hxc⟩ => ?_, fun ⟨x, hx, hxc⟩ => ⟨x, List.mem_append_left _ hx, hxc⟩⟩
    rcases List.mem_append.mp hx with hx | hx
    · exact ⟨x, hx, hxc⟩
    · -- the new name refers to a content that the old name refers to already
      cases List.mem_singleton.mp hx; cases hxc
      exact ⟨_, (find_some hf).1, hn⟩
  | rmFile | rmLink => exact gc_inv hi List.filter_sublist.subset
  | rmFileSymlink hf hn =>
    refine blobInv_congr hi fun b => fileCount_filter fun x hx hxb => ?_
    simp only [Bool.not_eq_true', decide_eq_false_iff_not]
    intro hk
    rw [find_unique htree hf hx hk, hn] at hxb; cases hxb
  | rmDir _ hok =>
    refine blobInv_congr hi fun b => fileCount_filter fun x hx hxb => ?_
    simp only [Bool.not_eq_true', List.any_eq_false, decide_eq_true_eq]
    rintro ⟨ns, p⟩ ht ⟨rfl, rfl⟩
    -- the removed name is that of a directory entry; names are unique, so `x` would be that entry
    obtain h0 | ⟨d, hd, hdns, hdp, hdir⟩ := isDir_hasDir (hok _ ht).2.1
    · exact (hok _ ht).1 h0
    · rw [key_unique htree.1 hx hd ⟨hdns.symm, hdp.symm⟩, hdir] at hxb; cases hxb
  | setHidden => exact blobInv_congr hi fun b => fileCount_map b fun x => by split <;> rfl

end Pycdlib.Spec

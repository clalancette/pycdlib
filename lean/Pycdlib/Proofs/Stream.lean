/-
Proofs/Stream — lemmas for the C16 refinement.
-/
import Pycdlib.Model.Stream
namespace Pycdlib

theorem fpRead_length (img : Bytes) (p n : Nat) : (fpRead img p n).length = min n (img.length - p) := by
  simp only [fpRead, List.length_take, List.length_drop]

theorem fpRead_take (img : Bytes) (p n k : Nat) : (fpRead img p n).take k = fpRead img p (min n k) := by
  simp only [fpRead, List.take_take, Nat.min_comm]

theorem content_drop (img : Bytes) (start len off : Nat) :
    ((img.drop start).take len).drop off = fpRead img (start + off) (len - off) := by
  rw [fpRead, List.drop_take, List.drop_drop]

theorem left_pos_eq (s : StreamSt) : (s.len - s.off > 0) = ¬ (s.off ≥ s.len) := propext (by omega)

/-- `readall` and `readinto k` are `read none` and `read (some k)`; the code only writes the test for the end of the
file differently (the specification's are equal by definition) -/
theorem streamCall_readall (img : Bytes) (pos : Nat) (s : StreamSt) :
    streamCall img pos s .readall = streamCall img pos s (.read none) := by
  simp only [streamCall, left_pos_eq, ite_not]

theorem streamCall_readinto (img : Bytes) (pos : Nat) (s : StreamSt) (k : Nat) :
    streamCall img pos s (.readinto k) = streamCall img pos s (.read (some k)) := by
  simp only [streamCall, left_pos_eq, ite_not]

theorem read_refines (img : Bytes) (pos : Nat) (s : StreamSt) (n : Option Nat)
    (h : s.start + s.len ≤ img.length) :
    (streamCall img pos s (.read n)).2.2 = (specCall (absStream img s) (.read n)).2 ∧
    absStream img (streamCall img pos s (.read n)).1 = (specCall (absStream img s) (.read n)).1 ∧
    (streamCall img pos s (.read n)).1.start = s.start ∧ (streamCall img pos s (.read n)).1.len = s.len := by
  obtain ⟨st, ln, of, isOpen⟩ := s
  cases isOpen
  · simp [streamCall, specCall, absStream]
  · simp only [streamCall, specCall, absStream, content_drop, Bool.not_true, Bool.false_eq_true, if_false] at h ⊢
    by_cases hge : of ≥ ln
    · have h0 : ln - of = 0 := by omega
      cases n <;> simp [hge, h0, fpRead]
    · cases n <;> simp [hge, fpRead_take, fpRead_length] <;> omega

/-- one call on one stream refines the in-memory stream of that file's bytes -/
theorem call_refines (img : Bytes) (pos : Nat) (s : StreamSt) (c : StreamCall)
    (h : s.start + s.len ≤ img.length) :
    (streamCall img pos s c).2.2 = (specCall (absStream img s) c).2 ∧
    absStream img (streamCall img pos s c).1 = (specCall (absStream img s) c).1 ∧
    (streamCall img pos s c).1.start = s.start ∧ (streamCall img pos s c).1.len = s.len := by
  cases c with
  | read n => exact read_refines img pos s n h
  | readall => rw [streamCall_readall]; exact read_refines img pos s none h
  | readinto k => rw [streamCall_readinto]; exact read_refines img pos s (some k) h
  | close | tell => cases hop : s.isOpen <;> simp [streamCall, specCall, absStream, hop]
  | seek off whence =>
    have hlen : ((img.drop s.start).take s.len).length = s.len := by
      simp only [List.length_take, List.length_drop]; omega
    cases hop : s.isOpen
    · simp [streamCall, specCall, absStream, hop]
    · simp only [streamCall, specCall, absStream, hop, hlen, Bool.not_true, Bool.false_eq_true, if_false]
      cases seekTarget s.off s.len off whence <;> simp [hop]

theorem absW_get (w : World) (id : Nat) :
    (absW w)[id]? = (w.streams[id]?).map (absStream w.img) := by
  unfold absW; simp

end Pycdlib

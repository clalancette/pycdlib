/-
Proofs/Mangle — what the mangling helpers of utils.py produce.
-/
import Pycdlib.Model.Mangle
namespace Pycdlib

theorem isD1_of_isD1Char (c : Char) (h : isD1Char c = true) : isD1 (UInt8.ofNat c.toNat) = true := by
  have h' : (65 ≤ c.toNat ∧ c.toNat ≤ 90) ∨ (48 ≤ c.toNat ∧ c.toNat ≤ 57) ∨ c.toNat = 95 := by
    simpa [isD1Char, Char.le_def, UInt32.le_iff_toNat_le, Char.ext_iff, ← UInt32.toNat_inj, or_assoc] using h
  have hlt : c.toNat < 256 := by omega
  simp only [isD1, UInt8.toNat_ofNat_of_lt' hlt, Bool.or_eq_true, Bool.and_eq_true, decide_eq_true_eq]
  omega

theorem subst_all (s : List Char) : ∀ c ∈ subst s, isD1Char c = true := by
  simp only [subst, List.mem_map, forall_exists_index, and_imp, forall_apply_eq_imp_iff₂]
  intro a _
  split
  · assumption
  · rfl

theorem subst_length (s : List Char) : (subst s).length = s.length := List.length_map _

theorem subst_id (s : List Char) (h : ∀ c ∈ s, isD1Char c = true) : subst s = s :=
  (List.map_congr_left fun c hc => if_pos (h c hc)).trans (List.map_id' s)

theorem upperStr_id (upper : Upper) (s : List Char) (h : ∀ c ∈ s, upper c = [c]) : upperStr upper s = s := by
  rw [upperStr, List.flatMap_def, List.map_congr_left h, ← List.flatMap_def, List.flatMap_singleton']

theorem upperStr_ne_nil (upper : Upper) (hup : ∀ c, upper c ≠ []) (s : List Char) (hs : s ≠ []) :
    upperStr upper s ≠ [] := by
  obtain ⟨x, xs, rfl⟩ := List.exists_cons_of_ne_nil hs
  simp [upperStr, hup x]

theorem maxLen_bounds (lvl : Nat) (d : Bool) : 8 ≤ maxLen lvl d ∧ maxLen lvl d ≤ 31 := by
  unfold maxLen; split
  · omega
  · split <;> omega

theorem truncateBasename_of_ne (upper : Upper) (s : List Char) {lvl : Nat} (d : Bool) (h : lvl ≠ 4) :
    truncateBasename upper s lvl d = (subst (upperStr upper (s.take (maxLen lvl d)))).take (maxLen lvl d) :=
  if_neg h

theorem truncate_chars (upper : Upper) (s : List Char) (lvl : Nat) (d : Bool) (h : lvl ≠ 4) :
    ∀ c ∈ truncateBasename upper s lvl d, isD1Char c = true := fun c hc =>
  subst_all _ c (List.mem_of_mem_take (truncateBasename_of_ne upper s d h ▸ hc))

theorem truncate_length (upper : Upper) (s : List Char) (lvl : Nat) (d : Bool) (h : lvl ≠ 4) :
    (truncateBasename upper s lvl d).length ≤ maxLen lvl d := by
  rw [truncateBasename_of_ne upper s d h, List.length_take]
  exact Nat.min_le_left ..

theorem truncate_ne_nil (upper : Upper) (hup : ∀ c, upper c ≠ []) (s : List Char) (hs : s ≠ [])
    (lvl : Nat) (d : Bool) : truncateBasename upper s lvl d ≠ [] := by
  unfold truncateBasename
  split
  · exact hs
  · have := (maxLen_bounds lvl d).1
    have h0 : maxLen lvl d ≠ 0 := by omega
    simp only [ne_eq, List.take_eq_nil_iff, h0, false_or, subst, List.map_eq_nil_iff]
    exact upperStr_ne_nil upper hup _ (by simp [List.take_eq_nil_iff, h0, hs])

theorem truncate_id (upper : Upper) (s : List Char) (lvl : Nat) (d : Bool)
    (hd : ∀ c ∈ s, isD1Char c = true) (hu : ∀ c, isD1Char c = true → upper c = [c])
    (hl : s.length ≤ maxLen lvl d) : truncateBasename upper s lvl d = s := by
  unfold truncateBasename
  split
  · rfl
  · rw [List.take_of_length_le hl, upperStr_id upper s (fun c hc => hu c (hd c hc)), subst_id s hd,
      List.take_of_length_le hl]

/-- `mangle_file_for_iso9660` below level 4: the whole name is the base, or (when what follows the last dot is not empty
and upper-cases to at most three d-characters) the two parts `base`, `ext` are mangled separately. -/
theorem mangleFile_cases (upper : Upper) (s : List Char) (lvl : Nat) (h4 : lvl ≠ 4) :
    mangleFile upper s lvl = (truncateBasename upper s lvl false, [';', '1']) ∨
    ∃ base ext : List Char, ext ≠ [] ∧ (upperStr upper ext).length ≤ 3 ∧
      (∀ c ∈ upperStr upper ext, isD1Char c = true) ∧
      mangleFile upper s lvl = (truncateBasename upper base lvl false, upperStr upper ext ++ [';', '1']) := by
  unfold mangleFile
  split
  · exact .inl (if_neg h4)
  · next base ext _ =>
    simp only [h4, if_false]
    split
    · exact .inl rfl
    · next hcond =>
      simp only [Bool.or_eq_true, decide_eq_true_eq, Bool.not_eq_true', not_or, Bool.not_eq_false,
        List.all_eq_true, List.length_eq_zero_iff] at hcond
      exact .inr ⟨base, ext, hcond.1.1.1, by omega, hcond.2, rfl⟩

theorem mangleFile_shape (upper : Upper) (s : List Char) (lvl : Nat) (h4 : lvl ≠ 4) :
    ∃ b e : List Char, mangleFile upper s lvl = (b, e ++ [';', '1']) ∧
      (∀ c ∈ b, isD1Char c = true) ∧ (∀ c ∈ e, isD1Char c = true) ∧
      b.length ≤ maxLen lvl false ∧ e.length ≤ 3 ∧
      ((∀ c, upper c ≠ []) → s ≠ [] → b ≠ [] ∨ e ≠ []) := by
  rcases mangleFile_cases upper s lvl h4 with h | ⟨base, ext, h0, h3, hall, h⟩
  · exact ⟨_, [], h, truncate_chars upper s lvl false h4, by simp, truncate_length upper s lvl false h4, by simp,
      fun hup hs => .inl (truncate_ne_nil upper hup s hs lvl false)⟩
  · exact ⟨_, _, h, truncate_chars upper base lvl false h4, hall, truncate_length upper base lvl false h4, h3,
      fun hup _ => .inr (upperStr_ne_nil upper hup ext h0)⟩

theorem asciiBytes_length (s : List Char) : (asciiBytes s).length = s.length := List.length_map _

theorem asciiBytes_eq_nil {s : List Char} : asciiBytes s = [] ↔ s = [] := List.map_eq_nil_iff

theorem asciiBytes_append (a b : List Char) : asciiBytes (a ++ b) = asciiBytes a ++ asciiBytes b := by
  simp [asciiBytes]

theorem asciiBytes_d1 (s : List Char) (h : ∀ c ∈ s, isD1Char c = true) :
    ∀ b ∈ asciiBytes s, isD1 b = true := by
  simp only [asciiBytes, List.mem_map, forall_exists_index, and_imp, forall_apply_eq_imp_iff₂]
  exact fun c hc => isD1_of_isD1Char c (h c hc)

theorem not_mem_of_d1 {l : Bytes} (h : ∀ b ∈ l, isD1 b = true) {c : UInt8} (hc : isD1 c = false) : c ∉ l :=
  fun hm => by simp [h c hm] at hc

end Pycdlib

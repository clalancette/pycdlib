/-
Proofs/SpecInv — the forest invariant `TreeInv` of the specification's state.  It is kept by appending fresh names below
existing directories (`treeInv_add`), by removing entries that no remaining entry hangs below (`treeInv_filter`) and by
rewriting entries without changing namespace, path or directory-ness (`treeInv_congr`); an accepted operation does
nothing else (Props/C01Tree `step_tree_inv`).
-/
import Pycdlib.Proofs.SpecStep
namespace Pycdlib.Spec

def keyOf (e : Entry) : NS × Path := (e.ns, e.path)

def HasDir (es : List Entry) (ns : NS) (p : Path) : Prop :=
  p = [] ∨ ∃ e ∈ es, e.ns = ns ∧ e.path = p ∧ e.node = Node.dir

def TreeInvL (es : List Entry) : Prop :=
  (es.map keyOf).Nodup ∧ ∀ e ∈ es, e.path ≠ [] ∧ HasDir es e.ns e.path.dropLast

def TreeInv (s : State) : Prop := TreeInvL s.entries

theorem isDir_hasDir {s : State} {ns : NS} {p : Path} (h : s.isDir ns p = true) : HasDir s.entries ns p := by
  simp only [State.isDir, Bool.or_eq_true, List.isEmpty_iff] at h
  refine h.imp id fun h => ?_
  split at h
  next e hf =>
    obtain ⟨he, hns, hp⟩ := find_some hf
    exact ⟨e, he, hns, hp, of_decide_eq_true h⟩
  next => cases h

theorem canAdd_facts {s : State} {ns : NS} {p : Path} (h : s.canAdd ns p = true) :
    p ≠ [] ∧ HasDir s.entries ns p.dropLast ∧ ∀ e ∈ s.entries, ¬ (e.ns = ns ∧ e.path = p) := by
  simp only [State.canAdd, Bool.and_eq_true, Bool.not_eq_true', List.isEmpty_eq_false_iff,
    Option.isNone_iff_eq_none] at h
  exact ⟨h.1.1, isDir_hasDir h.1.2, find_none h.2⟩

theorem hasDir_append {es es' : List Entry} {ns : NS} {p : Path} (h : HasDir es ns p) : HasDir (es ++ es') ns p :=
  h.imp id fun ⟨e, he, h⟩ => ⟨e, List.mem_append_left _ he, h⟩

theorem key_unique {es : List Entry} (h : (es.map keyOf).Nodup) {a b : Entry} (ha : a ∈ es) (hb : b ∈ es)
    (hk : a.ns = b.ns ∧ a.path = b.path) : a = b := by
  -- entries at different positions have different keys, whichever comes first
  have hne : es.Pairwise fun x y => keyOf x ≠ keyOf y := List.pairwise_map.mp h
  have h₁ : es.Pairwise fun x y => keyOf x = keyOf y → x = y := hne.imp fun hxy heq => absurd heq hxy
  have h₂ : es.Pairwise fun y x => keyOf x = keyOf y → x = y := hne.imp fun hxy heq => absurd heq.symm hxy
  exact h₁.forall_of_forall_of_flip (fun _ _ _ => rfl) h₂ ha hb (Prod.ext hk.1 hk.2)

theorem find_unique {s : State} {ns : NS} {p : Path} {e x : Entry} (hi : TreeInv s) (hf : s.find ns p = some e)
    (hx : x ∈ s.entries) (hk : x.ns = ns ∧ x.path = p) : x = e :=
  key_unique hi.1 hx (find_some hf).1 ⟨hk.1.trans (find_some hf).2.1.symm, hk.2.trans (find_some hf).2.2.symm⟩

theorem treeInv_add {s : State} {new : List Entry} (hns : (new.map (·.ns)).Nodup)
    (hok : ∀ e ∈ new, s.canAdd e.ns e.path = true) (h : TreeInv s) : TreeInvL (s.entries ++ new) := by
  constructor
  · rw [List.map_append, List.nodup_append]
    refine ⟨h.1, ?_, ?_⟩
    · -- the new keys are pairwise different because their namespaces are
      exact List.pairwise_map.mpr ((List.pairwise_map.mp hns).imp fun hne heq => hne (congrArg Prod.fst heq))
    · intro k hk k' hk' heq
      obtain ⟨x, hx, rfl⟩ := List.mem_map.mp hk
      obtain ⟨e, he, rfl⟩ := List.mem_map.mp hk'
      exact (canAdd_facts (hok e he)).2.2 x hx (Prod.mk.inj heq)
  · intro e he
    rcases List.mem_append.mp he with he | he
    · exact ⟨(h.2 e he).1, hasDir_append (h.2 e he).2⟩
    · exact ⟨(canAdd_facts (hok e he)).1, hasDir_append (canAdd_facts (hok e he)).2.1⟩

theorem treeInv_filter {es : List Entry} {keep : Entry → Bool}
    (hpar : ∀ e ∈ es, keep e = true → ∀ d ∈ es, d.ns = e.ns → d.path = e.path.dropLast → d.node = Node.dir → keep d = true)
    (h : TreeInvL es) : TreeInvL (es.filter keep) := by
  constructor
  · exact ((List.filter_sublist).map keyOf).nodup h.1
  · intro e he
    obtain ⟨hm, hk⟩ := List.mem_filter.mp he
    exact ⟨(h.2 e hm).1, (h.2 e hm).2.imp id fun ⟨d, hd, h1, h2, h3⟩ =>
      ⟨d, List.mem_filter.mpr ⟨hd, hpar e hm hk d hd h1 h2 h3⟩, h1, h2, h3⟩⟩

theorem treeInv_remove {s : State} {ns : NS} {p : Path} {e : Entry} (hi : TreeInv s) (hf : s.find ns p = some e)
    (hn : e.node ≠ Node.dir) : TreeInvL (s.entries.filter fun x => !(x.ns = ns ∧ x.path = p)) :=
  treeInv_filter (fun _ _ _ d hd _ _ hdir => by
    simp only [Bool.not_eq_true', decide_eq_false_iff_not]
    exact fun hk => hn (find_unique hi hf hd hk ▸ hdir)) hi

/-- all that `TreeInvL` sees of an entry (`treeInvL_iff_shape`) -/
def shape (e : Entry) : NS × Path × Bool := (e.ns, e.path, decide (e.node = Node.dir))

theorem hasDir_iff_shape {es : List Entry} {ns : NS} {p : Path} :
    HasDir es ns p ↔ p = [] ∨ (ns, p, true) ∈ es.map shape := by
  simp only [HasDir, List.mem_map, shape, Prod.mk.injEq, decide_eq_true_eq]

theorem treeInvL_iff_shape {es : List Entry} : TreeInvL es ↔
    ((es.map shape).map fun t => (t.1, t.2.1)).Nodup ∧
      ∀ t ∈ es.map shape, t.2.1 ≠ [] ∧ (t.2.1.dropLast = [] ∨ (t.1, t.2.1.dropLast, true) ∈ es.map shape) := by
  simp only [TreeInvL, hasDir_iff_shape, List.forall_mem_map, List.map_map]
  rfl

theorem treeInv_congr {es es' : List Entry} (hs : es.map shape = es'.map shape) (h : TreeInvL es) : TreeInvL es' := by
  rw [treeInvL_iff_shape] at h ⊢
  rwa [← hs]

theorem treeInv_init (rr : Bool) : TreeInv { rr := rr } := ⟨List.nodup_nil, fun _ he => nomatch he⟩

end Pycdlib.Spec

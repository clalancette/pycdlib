/-
Proofs/PyCastAttr — the name of the simp set `py_cast` (an attribute has to be declared in a module before the one that
uses it); what is in it and why is said in Proofs/PyCast.
-/
import Lean.Meta.Tactic.Simp.RegisterCommand
register_simp_attr py_cast

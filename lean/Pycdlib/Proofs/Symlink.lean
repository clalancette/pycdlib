/-
Proofs/Symlink — the SL entries `_new_symlink` emits, for every target and every amount of room (`newSymlink_spec`).
`L s` is the state of the RRIP reader after all components emitted so far (closed records of the directory record, then
those of the continuation area, then the open record).  Closing a record does not change `L`, marking the last piece
CONTINUE only sets `cont`, appending a piece appends its bytes.  So the component loop appends exactly the rest of the
component (`slComp_normal`), and every component adds itself and a "/" to what the reader has put out plus the
separator it holds back (`L_compSteps`).
-/
import Pycdlib.Model.Susp
namespace Pycdlib.Susp

/-- `sep` in `slStep` -/
def sepOf (a : SlAcc) : Bytes := if a.needSep && !a.cont then [47] else []

theorem slFold_snoc (xs : List Comp) (c : Comp) : slFold (xs ++ [c]) = slStep (slFold xs) c := by
  simp [slFold]

theorem allComps_append (a b : List Ent) : allComps (a ++ b) = allComps a ++ allComps b :=
  List.flatMap_append

theorem allComps_sl (b : Bool) (cs : List Comp) : allComps [Ent.sl b cs] = cs := List.flatMap_singleton ..

theorem slStep_plain (a : SlAcc) (d : Bytes) :
    slStep a ⟨0, d⟩ = { out := a.out ++ sepOf a ++ d, needSep := true, cont := false } := by
  simp [slStep, sepOf, compName]

theorem slStep_cont (a : SlAcc) (d : Bytes) :
    slStep a ⟨0 ||| 1, d⟩ = { out := a.out ++ sepOf a ++ d, needSep := true, cont := true } := by
  simp [slStep, sepOf, compName]

/-- the state of a reader that has read everything emitted so far: the closed records of the directory record, those of
the continuation area, the record being filled -/
def L (s : SlSt) : SlAcc := slFold (allComps (s.doneDr ++ s.doneCe) ++ s.open_)

/-- Every record closed so far carries CONTINUE (RRIP 4.1.3, bit 0 of the SL flags), and none has been closed in the
continuation area while the record in the directory record is still being filled, so records are read in the order in
which they were closed. -/
def Closed (s : SlSt) : Prop :=
  (∀ e ∈ s.doneDr ++ s.doneCe, ∃ cs, e = Ent.sl true cs) ∧ (s.inDr = true → s.doneCe = [])

theorem closeSl_open (s : SlSt) (b : Bool) : (closeSl s b).open_ = [] := by
  unfold closeSl; split <;> rfl

theorem closeSl_done (s : SlSt) (b : Bool) (h : Closed s) :
    (closeSl s b).doneDr ++ (closeSl s b).doneCe = s.doneDr ++ s.doneCe ++ [Ent.sl b s.open_] := by
  unfold closeSl
  split
  · next hd => simp [h.2 hd]
  · simp

theorem reopen_done (s : SlSt) (m : Bool) (h : Closed s) :
    (s.reopen m).doneDr ++ (s.reopen m).doneCe =
      s.doneDr ++ s.doneCe ++ [Ent.sl true (if m then setLastContinued s.open_ else s.open_)] := by
  cases m
  · exact closeSl_done s true h
  · exact closeSl_done { s with open_ := setLastContinued s.open_ } true h

theorem reopen_closed {s : SlSt} {m : Bool} (h : Closed s) : Closed (s.reopen m) := by
  refine ⟨fun e he => ?_, fun hd => Bool.noConfusion hd⟩
  rw [reopen_done s m h] at he
  rcases List.mem_append.mp he with he | he
  · exact h.1 e he
  · exact ⟨_, List.mem_singleton.mp he⟩

theorem push_closed {s : SlSt} {c : Comp} {g u : Nat} (h : Closed s) : Closed (s.push c g u) := h

theorem push_open (s : SlSt) (c : Comp) (g u : Nat) : (s.push c g u).open_ = s.open_ ++ [c] := rfl

theorem L_push (s : SlSt) (c : Comp) (g u : Nat) : L (s.push c g u) = slStep (L s) c := by
  unfold L
  rw [push_open, ← List.append_assoc, slFold_snoc]
  rfl

theorem L_reopen (s : SlSt) (m : Bool) (h : Closed s) :
    L (s.reopen m) = slFold (allComps (s.doneDr ++ s.doneCe) ++ if m then setLastContinued s.open_ else s.open_) := by
  have ho : (s.reopen m).open_ = [] := closeSl_open _ _
  rw [L, reopen_done s m h, ho, allComps_append, allComps_sl, List.append_nil]

theorem setLastContinued_snoc (xs : List Comp) (c : Comp) :
    setLastContinued (xs ++ [c]) = xs ++ [{ c with flags := c.flags ||| 1 }] := by
  simp [setLastContinued]

theorem L_reopen_true (s : SlSt) (h : Closed s) (d : Bytes) (g u : Nat) :
    L ((s.push ⟨0, d⟩ g u).reopen true) = { out := (L s).out ++ sepOf (L s) ++ d, needSep := true, cont := true } := by
  rw [L_reopen _ true (push_closed h), if_pos rfl, push_open, setLastContinued_snoc, ← List.append_assoc,
    slFold_snoc, slStep_cont]
  rfl

/-- the first step of an iteration of `slComp` -/
def roomFor (m : Nat) (mark : Bool) (s : SlSt) : SlSt := if m > s.area then s.reopen mark else s

theorem roomFor_closed {m : Nat} {mark : Bool} {s : SlSt} (h : Closed s) : Closed (roomFor m mark s) := by
  unfold roomFor
  split
  · exact reopen_closed h
  · exact h

theorem roomFor_area (m : Nat) (mark : Bool) (s : SlSt) (hm : m ≤ 250) : m ≤ (roomFor m mark s).area := by
  unfold roomFor
  split
  · exact hm
  · omega

theorem L_roomFor (m : Nat) (s : SlSt) (h : Closed s) : L (roomFor m false s) = L s := by
  unfold roomFor
  split
  · exact L_reopen s false h
  · rfl

theorem slComp_closed {fuel : Nat} {s : SlSt} {comp : Bytes} {special : Bool} {flag offset : Nat} (h : Closed s) :
    Closed (slComp fuel s comp special flag offset) := by
  fun_induction slComp fuel s comp special flag offset with
  | case1 => exact h
  | case2 | case3 => exact roomFor_closed h
  | case4 => rename_i ih; exact ih (roomFor_closed h)

theorem slComp_special (fuel : Nat) (s : SlSt) (comp : Bytes) (flag : Nat) :
    slComp (fuel + 1) s comp true flag 0 = (roomFor 2 false s).push ⟨flag, []⟩ 2 2 := by
  simp [slComp, roomFor]

/-- `minimum` in `slComp` for a normal component -/
def minOf (comp : Bytes) : Nat := if comp.isEmpty then 2 else 3

theorem minOf_bounds (comp : Bytes) :
    2 ≤ minOf comp ∧ minOf comp ≤ 3 ∧ minOf comp ≤ 2 + comp.length ∧ (0 < comp.length → minOf comp = 3) := by
  cases comp with
  | nil => simp [minOf]
  | cons _ _ => simp [minOf]; omega

/-- The loop appends exactly the bytes of `comp` from `offset` on, whatever the room left.  `pre` is what the reader
has when the next piece is recorded: a piece that opens the component comes after the separator held back, a later
one directly after the piece before it, because that one is marked CONTINUE when the full record is closed. -/
theorem slComp_normal (fuel : Nat) (s : SlSt) (comp : Bytes) (offset : Nat) (pre : Bytes)
    (hfuel : comp.length - offset + 1 ≤ fuel) (hc : Closed s)
    (hpre : (L (roomFor (minOf comp) (decide (offset ≠ 0)) s)).out ++
      sepOf (L (roomFor (minOf comp) (decide (offset ≠ 0)) s)) = pre) :
    L (slComp fuel s comp false 0 offset) = { out := pre ++ comp.drop offset, needSep := true, cont := false } := by
  induction fuel generalizing s offset pre with
  | zero => omega
  | succ fuel ih =>
    simp only [slComp, Bool.false_or, Bool.false_eq_true, if_false, ← minOf.eq_1, ← roomFor.eq_1]
    have hm := minOf_bounds comp
    have hc1 := roomFor_closed (m := minOf comp) (mark := decide (offset ≠ 0)) hc
    have harea1 := roomFor_area (minOf comp) (decide (offset ≠ 0)) s (by omega)
    generalize roomFor (minOf comp) (decide (offset ≠ 0)) s = s1 at hpre hc1 harea1 ⊢
    generalize hrest : comp.drop offset = restc
    have hrl : restc.length = comp.length - offset := by rw [← hrest, List.length_drop]
    by_cases hfin : 2 + restc.length ≤ s1.area
    · -- the rest fits: it is the last piece
      rw [if_neg (by omega : ¬ 2 + restc.length > s1.area), List.take_of_length_le (by omega), if_pos (by omega), L_push,
        slStep_plain, hpre]
    · -- something is left over, so the component is not empty, at least one byte of it is recorded here, and the
      -- record is then full
      rw [if_pos (by omega : 2 + restc.length > s1.area), if_neg (by omega)]
      have htl : (restc.take (s1.area - 2)).length = s1.area - 2 := by rw [List.length_take]; omega
      rw [ih _ (offset + (s1.area - 2)) (pre ++ restc.take (s1.area - 2)) (by omega) (push_closed hc1),
        List.append_assoc, ← hrest, ← List.drop_drop, List.take_append_drop]
      -- left over: the premise `hpre` of the induction hypothesis.  The record is full, so the next round reopens it and
      -- marks the piece just recorded CONTINUE
      rw [roomFor, if_pos (by show _ > s1.area - _; omega), decide_eq_true (by omega), L_reopen_true _ hc1, hpre]
      simp [sepOf]

/-- what `_new_symlink` does with component number `i` -/
def compStep (i : Nat) (c : Bytes) (s : SlSt) : SlSt :=
  if i = 0 ∧ c = [] then slComp (c.length + 3) s [47] true 8 0
  else if c = [46] then slComp 3 s c true 2 0
  else if c = [46, 46] then slComp 3 s c true 4 0
  else slComp (c.length + 3) s c false 0 0

def compSteps : Nat → List Bytes → SlSt → SlSt
  | _, [], s => s
  | k, c :: cs, s => compSteps (k + 1) cs (compStep k c s)

theorem compSteps_snoc (k : Nat) (cs : List Bytes) (c : Bytes) (s : SlSt) :
    compSteps k (cs ++ [c]) s = compStep (k + cs.length) c (compSteps k cs s) := by
  induction cs generalizing k s with
  | nil => rfl
  | cons d cs ih => rw [List.cons_append, compSteps, ih, List.length_cons, Nat.add_assoc, Nat.add_comm 1]; rfl

theorem compStep_cases (i : Nat) (c : Bytes) (s : SlSt) :
    (∃ flag, compStep i c s = (roomFor 2 false s).push ⟨flag, []⟩ 2 2 ∧
      (i = 0 ∧ c = [] ∧ flag = 8 ∨ c = [46] ∧ flag = 2 ∨ c = [46, 46] ∧ flag = 4)) ∨
    (compStep i c s = slComp (c.length + 3) s c false 0 0 ∧ ¬(i = 0 ∧ c = []) ∧ c ≠ [46] ∧ c ≠ [46, 46]) := by
  unfold compStep
  split
  · next h => exact .inl ⟨8, slComp_special .., .inl ⟨h.1, h.2, rfl⟩⟩
  · split
    · next h => exact .inl ⟨2, slComp_special .., .inr (.inl ⟨h, rfl⟩)⟩
    · split
      · next h => exact .inl ⟨4, slComp_special .., .inr (.inr ⟨h, rfl⟩)⟩
      · next h0 h1 h2 => exact .inr ⟨rfl, h0, h1, h2⟩

theorem compStep_closed (i : Nat) (c : Bytes) (s : SlSt) (h : Closed s) : Closed (compStep i c s) := by
  rcases compStep_cases i c s with ⟨_, he, _⟩ | ⟨he, _⟩
  · exact he ▸ roomFor_closed h
  · exact he ▸ slComp_closed h

theorem compSteps_closed (k : Nat) (cs : List Bytes) (s : SlSt) (h : Closed s) : Closed (compSteps k cs s) := by
  induction cs generalizing k s with
  | nil => exact h
  | cons c cs ih => exact ih (k + 1) _ (compStep_closed k c s h)

theorem L_compStep (i : Nat) (c : Bytes) (s : SlSt) (h : Closed s) :
    L (compStep i c s) =
      if i = 0 ∧ c = [] then { out := (L s).out ++ sepOf (L s) ++ [47], needSep := false, cont := false }
      else { out := (L s).out ++ sepOf (L s) ++ c, needSep := true, cont := false } := by
  rcases compStep_cases i c s with ⟨flag, he, hf⟩ | ⟨he, h0, _, _⟩
  · rw [he, L_push, L_roomFor _ s h]
    rcases hf with ⟨rfl, rfl, rfl⟩ | ⟨rfl, rfl⟩ | ⟨rfl, rfl⟩ <;> simp [slStep, sepOf, compName]
  · rw [he, if_neg h0, slComp_normal _ s c 0 _ (by omega) h (congrArg (fun a => a.out ++ sepOf a) (L_roomFor _ s h))]
    rfl

def joinSep (cs : List Bytes) : Bytes := cs.flatMap (· ++ [47])

theorem joinSep_splitSlash (t : Bytes) : joinSep (splitSlash t) = t ++ [47] := by
  fun_induction splitSlash t with
  | case1 => rfl
  | case2 xs ih => simpa [joinSep] using ih
  | case3 x xs hx hs ih => simp [hs, joinSep] at ih
  | case4 x xs hx p ps hs ih => simpa [hs, joinSep] using ih

theorem L_compSteps (cs : List Bytes) (k : Nat) (s : SlSt) (h : Closed s) :
    (L (compSteps k cs s)).out ++ sepOf (L (compSteps k cs s)) = (L s).out ++ sepOf (L s) ++ joinSep cs := by
  induction cs generalizing k s with
  | nil => simp [compSteps, joinSep]
  | cons c cs ih =>
    rw [compSteps, ih (k + 1) _ (compStep_closed k c s h), L_compStep k c s h]
    split
    · next hr => simp [sepOf, joinSep, hr.2]
    · simp [sepOf, joinSep]

theorem compSteps_reassembles (s0 : SlSt) (hc : Closed s0) (hL : L s0 = {}) (t : Bytes) (ht : t ≠ []) :
    (L (compSteps 0 (splitSlash t) s0)).out = t := by
  have hj := joinSep_splitSlash t
  rcases List.eq_nil_or_concat (splitSlash t) with hs | ⟨cs, c, hs⟩
  · rw [hs] at hj; exact absurd hj (by simp [joinSep])
  · -- the target is not empty, so its last component `c` is not the root, and the reader's output ends with it
    rw [List.concat_eq_append] at hs
    rw [hs, joinSep, List.flatMap_append, List.flatMap_singleton, ← List.append_assoc] at hj
    have hj : joinSep cs ++ c = t := List.append_cancel_right hj
    have hroot : ¬(0 + cs.length = 0 ∧ c = []) := fun ⟨hk, hc⟩ => by
      rw [List.eq_nil_of_length_eq_zero (by omega : cs.length = 0), hc] at hj
      exact ht hj.symm
    rw [hs, compSteps_snoc, L_compStep _ _ _ (compSteps_closed 0 cs s0 hc), if_neg hroot, L_compSteps cs 0 s0 hc, hL]
    exact hj

/-- the bytes `_new_symlink` counts for one component beforehand -/
def need (c : Bytes) : Nat := 2 + (if c = [46] ∨ c = [46, 46] ∨ c = [47] then 0 else c.length)

theorem slComp_fits (fuel : Nat) (s : SlSt) (comp : Bytes) (hroom : 2 + comp.length ≤ s.area) :
    slComp (fuel + 1) s comp false 0 0 = s.push ⟨0, comp⟩ (2 + comp.length) (2 + comp.length) := by
  have hm := minOf_bounds comp
  simp only [slComp, Bool.false_or, Bool.false_eq_true, if_false, List.drop_zero, Nat.zero_add, ← minOf.eq_1]
  rw [if_neg (by omega : ¬ minOf comp > s.area), if_neg (by omega : ¬ 2 + comp.length > s.area),
    List.take_of_length_le (by omega), if_pos (by omega)]

theorem compStep_fits (i : Nat) (c : Bytes) (s : SlSt) (hns : (47 : UInt8) ∉ c) (hroom : need c ≤ s.area) :
    ∃ p, compStep i c s = s.push p (need c) (need c) := by
  rcases compStep_cases i c s with ⟨flag, he, hf⟩ | ⟨he, _, h1, h2⟩
  · have h2 : need c = 2 := by rcases hf with ⟨_, rfl, _⟩ | ⟨rfl, _⟩ | ⟨rfl, _⟩ <;> rfl
    exact ⟨_, by rw [he, roomFor, if_neg (by omega), h2]⟩
  · have h3 : c ≠ [47] := fun h3 => hns (by simp [h3])
    have hneed : need c = 2 + c.length := by simp [need, h1, h2, h3]
    rw [hneed] at hroom ⊢
    exact ⟨_, he ▸ slComp_fits _ s c hroom⟩

theorem compSteps_fits (k : Nat) (cs : List Bytes) (hns : ∀ c ∈ cs, (47 : UInt8) ∉ c) (s : SlSt)
    (hroom : (cs.map need).sum ≤ s.area) : (compSteps k cs s).inDr = s.inDr ∧ (compSteps k cs s).doneCe = s.doneCe := by
  induction cs generalizing k s with
  | nil => exact ⟨rfl, rfl⟩
  | cons c cs ih =>
    simp only [List.map_cons, List.sum_cons] at hroom
    obtain ⟨p, hp⟩ := compStep_fits k c s (hns c List.mem_cons_self) (by omega)
    simp only [compSteps, hp]
    exact ih (k + 1) (fun x hx => hns x (List.mem_cons_of_mem _ hx)) _ (by show _ ≤ s.area - need c; omega)

theorem splitSlash_no_slash (t : Bytes) : ∀ c ∈ splitSlash t, (47 : UInt8) ∉ c := by
  fun_induction splitSlash t with
  | case1 => simp
  | case2 xs ih => simpa using ih
  | case3 x xs hx hs ih => simpa using Ne.symm hx
  | case4 x xs hx p ps hs ih => simp [hs] at ih ⊢; exact ⟨⟨Ne.symm hx, ih.1⟩, ih.2⟩

/-- the state `_new_symlink` starts from -/
def slInit (hasCE : Bool) (a : Acc) : SlSt :=
  let inDr := !hasCE || a.cur + 8 < allowed
  { cur := if inDr then a.cur + 5 else a.cur, inDr := inDr, area := if inDr then allowed - a.cur - 5 else 250,
    open_ := [], doneDr := [], doneCe := [] }

theorem foldl_compStep (cs : List Bytes) (k : Nat) (s : SlSt) :
    (List.zip (List.range' k cs.length) cs).foldl (fun s (p : Nat × Bytes) => compStep p.1 p.2 s) s = compSteps k cs s := by
  induction cs generalizing k s with
  | nil => rfl
  | cons c cs ih =>
    simp only [List.length_cons, List.range'_succ, List.zip_cons_cons, List.foldl_cons, compSteps]
    exact ih (k + 1) _

theorem newSymlink_some {hasCE : Bool} {a a' : Acc} {t : Bytes} (h : newSymlink hasCE a t = some a') :
    (hasCE = false → a.cur + (5 + ((splitSlash t).map need).sum) ≤ allowed) ∧
    a' = { cur := (closeSl (compSteps 0 (splitSlash t) (slInit hasCE a)) false).cur,
           dr := a.dr ++ (closeSl (compSteps 0 (splitSlash t) (slInit hasCE a)) false).doneDr,
           ce := a.ce ++ (closeSl (compSteps 0 (splitSlash t) (slInit hasCE a)) false).doneCe } := by
  unfold newSymlink at h
  simp only at h
  split at h
  · cases h
  · next hfit =>
    refine ⟨fun hce => ?_, ?_⟩
    · have : ¬ a.cur + (5 + ((splitSlash t).map need).sum) > allowed := fun hgt => hfit ⟨hgt, by simp [hce]⟩
      omega
    · rw [← Option.some.inj h, ← foldl_compStep, List.range_eq_range']
      rfl

/-- **C08 (symbolic links)**: for every target, the SL entries that `_new_symlink` distributes over the directory
record and the continuation area form a chain (all but the last say CONTINUE, the last does not); read in that order
by the RRIP rules they reassemble to exactly the target, if it is not empty — whatever room the directory record has
left and however components are cut at record boundaries; and without a continuation entry none of them is in the
continuation area. -/
theorem newSymlink_spec {hasCE : Bool} {a a' : Acc} {t : Bytes} (h : newSymlink hasCE a t = some a') :
    ∃ dr ce pre cs, a'.dr = a.dr ++ dr ∧ a'.ce = a.ce ++ ce ∧
      dr ++ ce = pre ++ [Ent.sl false cs] ∧ (∀ e ∈ pre, ∃ cs', e = Ent.sl true cs') ∧
      (t ≠ [] → slTarget (allComps (dr ++ ce)) = t) ∧ (hasCE = false → ce = []) := by
  obtain ⟨hfit, rfl⟩ := newSymlink_some h
  have h0 : Closed (slInit hasCE a) := ⟨fun _ he => (nomatch he), fun _ => rfl⟩
  have hc := compSteps_closed 0 (splitSlash t) _ h0
  have hdone := closeSl_done _ false hc
  refine ⟨_, _, _, _, rfl, rfl, hdone, hc.1, fun ht => ?_, fun hce => ?_⟩
  · rw [hdone, allComps_append, allComps_sl]
    exact compSteps_reassembles _ h0 rfl t ht
  · subst hce
    obtain ⟨hd, he⟩ := compSteps_fits 0 (splitSlash t) (splitSlash_no_slash t) (slInit false a)
      (by have := hfit rfl; show _ ≤ allowed - a.cur - 5; omega)
    simp only [closeSl, hd]
    exact he

/-- **no continuation entry, no continuation data**: when `_new_symlink` is called without a CE record and does not
give up, every SL record it makes is in the directory record. -/
theorem newSymlink_noCE (a a' : Acc) (target : Bytes) (h : newSymlink false a target = some a') : a'.ce = a.ce := by
  obtain ⟨_, ce, _, _, _, hce, _, _, _, h0⟩ := newSymlink_spec h
  rw [hce, h0 rfl, List.append_nil]

end Pycdlib.Susp

/-
Proofs/SpecStep — what an operation accepted by the specification is: `Step s op s'` has one constructor for each
branch of `Spec.step` that does not return `none`, with the facts `step` has checked there and the state it leaves, and
`step_some : step s op = some s' → Step s op s'`.  What holds of all accepted operations is proved by cases on `Step`
and carried along a history by `run_induction`.
-/
import Pycdlib.Model.Spec
namespace Pycdlib.Spec

theorem filter_filter_of_imp {α : Type} {p q : α → Bool} {l : List α} (h : ∀ a ∈ l, q a = true → p a = true) :
    (l.filter p).filter q = l.filter q := by
  rw [List.filter_filter]
  exact List.filter_congr fun a ha => Bool.and_eq_left_iff_imp.mpr (h a ha)

theorem find_some {s : State} {ns : NS} {p : Path} {e : Entry} (h : s.find ns p = some e) :
    e ∈ s.entries ∧ e.ns = ns ∧ e.path = p := by
  have hp := List.find?_some h
  simp only [decide_eq_true_eq] at hp
  exact ⟨List.mem_of_find?_eq_some h, hp⟩

theorem find_none {s : State} {ns : NS} {p : Path} (h : s.find ns p = none) :
    ∀ e ∈ s.entries, ¬ (e.ns = ns ∧ e.path = p) := by
  simpa [State.find] using h

theorem refs_pos_iff {s : State} {b : Nat} :
    0 < s.refs b ↔ (∃ e ∈ s.entries, e.node = Node.file b) ∨ b ∈ s.bootBlobs := by
  simp only [State.refs, Nat.add_pos_iff_pos_or_pos, List.length_filter_pos_iff, decide_eq_true_eq, exists_eq_right]

theorem mem_gc_blobs {s : State} {bl : Blob} : bl ∈ s.gc.blobs ↔ bl ∈ s.blobs ∧ 0 < s.gc.refs bl.id := by
  simp only [State.gc, List.mem_filter, decide_eq_true_eq]; rfl

/-- the names `addFp`, `addDir`, `addSymlink` and `rmDir` address, as `step` computes them -/
abbrev targets (i j u : Option Path) : List (NS × Path) :=
  optAll [i.map (NS.iso, ·), j.map (NS.joliet, ·), u.map (NS.udf, ·)]

def requested (i j u : Option Path) : NS → Option Path
  | .iso => i | .joliet => j | .udf => u

theorem mem_targets {i j u : Option Path} {t : NS × Path} : t ∈ targets i j u ↔ requested i j u t.1 = some t.2 := by
  obtain ⟨ns, p⟩ := t
  cases ns <;> simp [targets, optAll, requested, eq_comm]

theorem targets_ns_nodup (i j u : Option Path) : ((targets i j u).map (·.1)).Nodup := by
  cases i <;> cases j <;> cases u <;> simp [optAll]

inductive Step (s : State) : Op → State → Prop
  | addFp {a : AddFp} :
      targets a.iso a.joliet a.udf ≠ [] → (∀ t ∈ targets a.iso a.joliet a.udf, s.canAdd t.1 t.2) →
      Step s (.addFp a) { s with
        entries := s.entries ++
          (targets a.iso a.joliet a.udf).map (mkEntry s.rr (fun _ => .file s.next) a.rrName a.mode)
        blobs := s.blobs ++ [{ id := s.next, cid := a.cid, len := a.len }]
        next := s.next + 1 }
  | addDir {i : Option Path} {rn : Bytes} {j u : Option Path} {m : Nat} :
      targets i j u ≠ [] → (∀ t ∈ targets i j u, s.canAdd t.1 t.2) →
      Step s (.addDir i rn j u m)
        { s with entries := s.entries ++ (targets i j u).map (mkEntry s.rr (fun _ => .dir) rn m) }
  | addSymlink {i : Option Path} {rn rt : Bytes} {j u : Option Path} {ut : Bytes} :
      targets i j u ≠ [] → (∀ t ∈ targets i j u, s.canAdd t.1 t.2) →
      Step s (.addSymlink i rn rt j u ut)
        { s with entries := s.entries ++ (targets i j u).map (mkEntry s.rr
            (fun ns => .symlink (if ns = .udf then ut else if ns = .iso then rt else [])) rn 0o120555) }
  | addLink {ons : NS} {o : Path} {nns : NS} {n : Path} {rn : Bytes} {e : Entry} {b : Nat} :
      s.find ons o = some e → e.node = .file b → s.canAdd nns n →
      Step s (.addLink ons o nns n rn)
        { s with entries := s.entries ++
            [{ ns := nns, path := n, node := .file b, rrName := if nns = .iso then rn else [],
               mode := if nns = .iso ∧ s.rr then (if ons = .iso then e.mode else 0) else 0 }] }
  | rmFile {ns : NS} {p : Path} {e : Entry} {b : Nat} :
      s.find ns p = some e → e.node = .file b →
      Step s (.rmFile ns p) ({ s with entries := s.entries.filter fun x => x.node ≠ Node.file b }).gc
  | rmFileSymlink {ns : NS} {p : Path} {e : Entry} {t : Bytes} :
      s.find ns p = some e → e.node = .symlink t →
      Step s (.rmFile ns p) { s with entries := s.entries.filter fun x => !(x.ns = ns ∧ x.path = p) }
  | rmLink {ns : NS} {p : Path} {e : Entry} :
      s.find ns p = some e → e.node ≠ .dir →
      Step s (.rmLink ns p) ({ s with entries := s.entries.filter fun x => !(x.ns = ns ∧ x.path = p) }).gc
  | rmDir {i j u : Option Path} :
      targets i j u ≠ [] →
      (∀ t ∈ targets i j u, t.2 ≠ [] ∧ s.isDir t.1 t.2 = true ∧ s.hasChildren t.1 t.2 = false) →
      Step s (.rmDir i j u)
        { s with entries := s.entries.filter fun x => !((targets i j u).any fun (ns, p) => x.ns = ns ∧ x.path = p) }
  | setHidden {ns : NS} {p : Path} {hd : Bool} {e : Entry} :
      s.find ns p = some e →
      Step s (.setHidden ns p hd)
        { s with entries := s.entries.map fun x => if x.ns = ns ∧ x.path = p then { x with hidden := hd } else x }
  | reopen : Step s .reopen (reopenState s)

/-- the guard of `addFp`, `addDir`, `addSymlink` and `rmDir` in `step` -/
theorem guarded_eq_some {α β : Type} {ts : List α} {ok : α → Bool} {x y : β}
    (h : (if ts.isEmpty then none else if !(ts.all ok) then none else some x) = some y) :
    ts ≠ [] ∧ (∀ t ∈ ts, ok t = true) ∧ x = y := by
  simpa only [Option.ite_none_left_eq_some, Option.some.injEq, List.isEmpty_iff, Bool.not_eq_true', Bool.not_eq_false,
    List.all_eq_true, ne_eq] using h

theorem step_some {s s' : State} {op : Op} (h : step s op = some s') : Step s op s' := by
  cases op with
  | addFp a => obtain ⟨hne, hok, rfl⟩ := guarded_eq_some h; exact .addFp hne hok
  | addDir i rn j u m => obtain ⟨hne, hok, rfl⟩ := guarded_eq_some h; exact .addDir hne hok
  | addSymlink i rn rt j u ut => obtain ⟨hne, hok, rfl⟩ := guarded_eq_some h; exact .addSymlink hne hok
  | rmDir i j u =>
    obtain ⟨hne, hok, rfl⟩ := guarded_eq_some h
    exact .rmDir hne fun t ht => by simpa [and_assoc] using hok t ht
  | rmFile ns p =>
    simp only [step] at h
    split at h
    next e hf =>
      split at h
      next b hb => cases h; exact .rmFile hf hb
      next t ht => cases h; exact .rmFileSymlink hf ht
      next => cases h
    next => cases h
  | rmLink ns p =>
    simp only [step] at h
    split at h
    next e hf =>
      split at h
      next => cases h
      next hn => cases h; exact .rmLink hf hn
    next => cases h
  | addLink ons o nns n rn =>
    simp only [step] at h
    split at h
    next e hf =>
      split at h
      next b hb =>
        split at h
        next => cases h
        next hok => cases h; exact .addLink hf hb (by simpa using hok)
      next => cases h
    next => cases h
  | setHidden ns p hd =>
    simp only [step] at h
    split at h
    next e hf => cases h; exact .setHidden hf
    next => cases h
  | reopen => cases h; exact .reopen

theorem run_induction {P : State → Prop} {s s' : State} {ops : List Op} (h : run s ops = some s') (hs : P s)
    (hstep : ∀ op ∈ ops, ∀ s s', P s → step s op = some s' → P s') : P s' := by
  induction ops generalizing s with
  | nil => cases h; exact hs
  | cons op ops ih =>
    obtain ⟨s₁, h₁, h₂⟩ := Option.bind_eq_some_iff.mp h
    exact ih h₂ (hstep op List.mem_cons_self s s₁ hs h₁) fun o ho => hstep o (List.mem_cons_of_mem _ ho)

end Pycdlib.Spec

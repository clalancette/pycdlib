/-
Proofs/Crc — why a table-driven CRC equals the bit-by-bit definition, for ANY table that holds the bitwise CRC of each
index: one bit step of either CRC is linear over XOR, so eight steps are, and the byte update splits into the
contribution of the byte that indexes the table (looked up) and of the rest (merely shifted: nothing falls out of it).
Statements about the MODEL only; no table from the source appears.
-/
import Pycdlib.Model.Checksum
namespace Pycdlib

def XorLinear (f : Nat → Nat) : Prop := ∀ a b, f (a ^^^ b) = f a ^^^ f b

theorem iter8_linear {f : Nat → Nat} (hf : XorLinear f) : XorLinear (iter8 f) := by
  intro a b; simp only [iter8, hf _ _]

/-- "shift, and xor the polynomial `p` in when the bit that falls out is set" is linear when shift and bit are:
the polynomial is xored in by both, one or none of the operands, and twice cancels -/
theorem cond_xor_linear {g t : Nat → Nat} (p : Nat) (hg : XorLinear g) (ht : XorLinear t) (ht2 : ∀ a, t a < 2) :
    XorLinear fun c => if t c = 1 then g c ^^^ p else g c := by
  intro a b
  simp only [ht a b, hg a b]
  have ha : t a = 0 ∨ t a = 1 := by have := ht2 a; omega
  have hb : t b = 0 ∨ t b = 1 := by have := ht2 b; omega
  rcases ha with ha | ha <;> rcases hb with hb | hb <;> simp only [ha, hb] <;> simp
  · rw [Nat.xor_assoc]
  · rw [Nat.xor_assoc, Nat.xor_comm (g b) p, ← Nat.xor_assoc]
  · rw [Nat.xor_assoc, Nat.xor_comm (g b) p, ← Nat.xor_assoc p, Nat.xor_self, Nat.zero_xor]

theorem crc32Shift_linear : XorLinear crc32Shift :=
  cond_xor_linear (g := (· / 2)) (t := (· % 2)) 0xEDB88320 (fun _ _ => Nat.xor_div_two_pow (n := 1))
    (fun _ _ => Nat.xor_mod_two_pow (n := 1)) fun _ => Nat.mod_lt _ (by decide)

theorem crc16Shift_linear : XorLinear crc16Shift := by
  have hmul : XorLinear (· * 2 % 2 ^ 16) := fun a b => by
    have := Nat.shiftLeft_xor_distrib (i := 1) (a := a) (b := b)
    simp only [Nat.shiftLeft_eq, Nat.pow_one] at this
    simp only [this, Nat.xor_mod_two_pow]
  have h := cond_xor_linear (g := (· * 2 % 2 ^ 16)) (t := (· / 2 ^ 15 % 2 ^ 1)) 0x1021 hmul
    (fun a b => by simp only [Nat.xor_div_two_pow, Nat.xor_mod_two_pow]) fun _ => Nat.mod_lt _ (by decide)
  intro a b
  have e : ∀ c, crc16Shift c = if c / 2 ^ 15 % 2 ^ 1 = 1 then c * 2 % 2 ^ 16 ^^^ 0x1021 else c * 2 % 2 ^ 16 := by
    intro c; unfold crc16Shift; rw [Nat.xor_mod_two_pow (n := 16)]
  simp only [e]; exact h a b

theorem split_xor (n : Nat) : n = (n / 2 ^ 8 * 2 ^ 8) ^^^ (n % 2 ^ 8) := by
  apply Nat.eq_of_testBit_eq
  intro i
  rw [Nat.testBit_xor, Nat.testBit_mul_two_pow, Nat.testBit_mod_two_pow, Nat.testBit_div_two_pow]
  rcases Nat.lt_or_ge i 8 with h | h
  · simp [h, Nat.not_le.mpr h]
  · simp [h, Nat.not_lt.mpr h, Nat.sub_add_cancel h]

theorem iter8_split {f : Nat → Nat} (hf : XorLinear f) (n : Nat) :
    iter8 f n = iter8 f (n / 2 ^ 8 * 2 ^ 8) ^^^ iter8 f (n % 2 ^ 8) := by
  rw [← iter8_linear hf, ← split_xor]

/-- eight CRC-16 steps on a byte move it up one byte: no bit falls out, so there is no feedback -/
theorem iter8_crc16_low (lo : Nat) (h : lo < 256) : iter8 crc16Shift lo = lo * 256 := by
  have s : ∀ c, c < 32768 → crc16Shift c = c * 2 := fun c hc => by unfold crc16Shift; split <;> omega
  simp (disch := omega) only [iter8, s]
  omega

theorem iter8_crc32_high (h : Nat) : iter8 crc32Shift (h * 2 ^ 8) = h := by
  have s : ∀ k, crc32Shift (h * 2 ^ (k + 1)) = h * 2 ^ k := by
    intro k; unfold crc32Shift
    rw [Nat.pow_succ, ← Nat.mul_assoc, Nat.mul_mod_left, if_neg (by decide), Nat.mul_div_cancel _ (by decide)]
  unfold iter8
  rw [s 7, s 6, s 5, s 4, s 3, s 2, s 1, s 0, Nat.pow_zero, Nat.mul_one]

/-- CRC-16, one byte: the bit-by-bit update equals "table[high byte xor x] xor (low byte shifted up)",
for ANY table that holds the bitwise CRC of each index. -/
theorem crc16Byte_table (tbl : Nat → Nat) (htbl : ∀ b : Fin 256, tbl b.val = iter8 crc16Shift (b.val * 256))
    (crc x : Nat) (hc : crc < 65536) (hx : x < 256) :
    crc16Byte crc x = tbl (x ^^^ (crc / 256 % 256)) ^^^ ((crc * 256) % 65536 / 256 * 256) := by
  have hhi : (crc ^^^ x * 256) / 2 ^ 8 = x ^^^ crc / 256 % 256 := by
    rw [Nat.xor_div_two_pow, Nat.xor_comm]; congr 1 <;> omega
  have hlo : (crc ^^^ x * 256) % 2 ^ 8 = crc % 256 := by
    rw [Nat.xor_mod_two_pow, show x * 256 % 2 ^ 8 = 0 by omega, Nat.xor_zero]
  have hb : x ^^^ crc / 256 % 256 < 256 := Nat.xor_lt_two_pow (n := 8) hx (Nat.mod_lt _ (by decide))
  rw [crc16Byte, iter8_split crc16Shift_linear, hhi, hlo, iter8_crc16_low _ (Nat.mod_lt _ (by decide)),
    show crc * 256 % 65536 / 256 * 256 = crc % 256 * 256 by omega, htbl ⟨_, hb⟩]

/-- CRC-32, one byte: the bit-by-bit update equals "(crc shifted down) xor table[low byte xor x]" -/
theorem crc32Byte_table (tbl : Nat → Nat) (htbl : ∀ b : Fin 256, tbl b.val = iter8 crc32Shift b.val)
    (crc x : Nat) (hx : x < 256) :
    crc32Byte crc x = (crc / 2 ^ 8) ^^^ tbl ((crc ^^^ x) % 2 ^ 8) := by
  have hhi : (crc ^^^ x) / 2 ^ 8 = crc / 2 ^ 8 := by
    rw [Nat.xor_div_two_pow, show x / 2 ^ 8 = 0 by omega, Nat.xor_zero]
  rw [crc32Byte, iter8_split crc32Shift_linear, iter8_crc32_high, hhi, htbl ⟨_, Nat.mod_lt _ (by decide)⟩]

theorem crc32_split : ∀ hi : Fin 256, ∀ b : Fin 256,
    iter8 crc32Shift (hi.val * 256 + b.val) % 16777216 = (iter8 crc32Shift b.val ^^^ hi.val) % 16777216 := by
  intro hi b
  rw [iter8_split crc32Shift_linear, iter8_crc32_high, Nat.xor_comm]
  congr 3 <;> omega

theorem iter8_inv {f : Nat → Nat} {P : Nat → Prop} (h : ∀ c, P c → P (f c)) {c : Nat} (hc : P c) : P (iter8 f c) :=
  h _ (h _ (h _ (h _ (h _ (h _ (h _ (h _ hc)))))))

theorem crc16Byte_lt (crc x : Nat) : crc16Byte crc x < 65536 := by
  have hs : ∀ c, crc16Shift c < 65536 := by
    intro c; unfold crc16Shift; split <;> omega
  -- no bound on `crc` is needed (unlike `crc32Byte_lt`): the last of the eight shifts alone reduces modulo 2^16
  exact hs _

theorem crc32Byte_lt (crc x : Nat) (hc : crc < 2 ^ 32) (hx : x < 256) : crc32Byte crc x < 2 ^ 32 := by
  refine iter8_inv (P := (· < 2 ^ 32)) (fun c h => ?_) (Nat.xor_lt_two_pow hc (by omega))
  unfold crc32Shift
  split
  · exact Nat.xor_lt_two_pow (by omega) (by decide)
  · omega

end Pycdlib

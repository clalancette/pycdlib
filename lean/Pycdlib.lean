import Pycdlib.Generated.Checksum
import Pycdlib.Generated.Grow
import Pycdlib.Generated.Kernel
import Pycdlib.Generated.Names
import Pycdlib.Generated.Pack
import Pycdlib.Generated.Susp
import Pycdlib.Model.Atomic
import Pycdlib.Model.Boot
import Pycdlib.Model.BootParse
import Pycdlib.Model.Bytes
import Pycdlib.Model.Cache
import Pycdlib.Model.Checksum
import Pycdlib.Model.Codec
import Pycdlib.Model.Dates
import Pycdlib.Model.DirBytes
import Pycdlib.Model.Dispatch
import Pycdlib.Model.Err
import Pycdlib.Model.Extents
import Pycdlib.Model.Hybrid
import Pycdlib.Model.InPlace
import Pycdlib.Model.Iso
import Pycdlib.Model.Layout
import Pycdlib.Model.Lazy
import Pycdlib.Model.Mangle
import Pycdlib.Model.Names
import Pycdlib.Model.Pack
import Pycdlib.Model.PathTable
import Pycdlib.Model.PtBytes
import Pycdlib.Model.PtOrder
import Pycdlib.Model.PyOps
import Pycdlib.Model.Ranges
import Pycdlib.Model.Reader
import Pycdlib.Model.ReaderUdf
import Pycdlib.Model.Reloc
import Pycdlib.Model.Spec
import Pycdlib.Model.Stream
import Pycdlib.Model.Susp
import Pycdlib.Model.Tools
import Pycdlib.Model.Udf
import Pycdlib.Model.UdfNames
import Pycdlib.Model.Unicode
import Pycdlib.Model.VdOrder
import Pycdlib.Model.Walk
import Pycdlib.Proofs.Bytes
import Pycdlib.Proofs.Crc
import Pycdlib.Proofs.Dates
import Pycdlib.Proofs.Mangle
import Pycdlib.Proofs.Names
import Pycdlib.Proofs.Pack
import Pycdlib.Proofs.PyCast
import Pycdlib.Proofs.PyCastAttr
import Pycdlib.Proofs.SpecBlobs
import Pycdlib.Proofs.SpecInv
import Pycdlib.Proofs.SpecStep
import Pycdlib.Proofs.Stream
import Pycdlib.Proofs.Symlink
import Pycdlib.Props.C01
import Pycdlib.Props.C01Extents
import Pycdlib.Props.C01Tree
import Pycdlib.Props.C02
import Pycdlib.Props.C03
import Pycdlib.Props.C03Dir
import Pycdlib.Props.C03Pt
import Pycdlib.Props.C03PtOrder
import Pycdlib.Props.C04
import Pycdlib.Props.C04DirBytes
import Pycdlib.Props.C04Iso
import Pycdlib.Props.C04PathTable
import Pycdlib.Props.C06
import Pycdlib.Props.C07
import Pycdlib.Props.C07Store
import Pycdlib.Props.C08
import Pycdlib.Props.C08Alloc
import Pycdlib.Props.C08Assign
import Pycdlib.Props.C09
import Pycdlib.Props.C09Indep
import Pycdlib.Props.C10
import Pycdlib.Props.C10Names
import Pycdlib.Props.C11
import Pycdlib.Props.C11Parse
import Pycdlib.Props.C11VdOrder
import Pycdlib.Props.C12
import Pycdlib.Props.C13
import Pycdlib.Props.C13Reloc
import Pycdlib.Props.C14
import Pycdlib.Props.C15
import Pycdlib.Props.C15Ranges
import Pycdlib.Props.C16
import Pycdlib.Props.C16Cache
import Pycdlib.Props.C17Offset
import Pycdlib.Props.C17Plan
import Pycdlib.Props.C18
import Pycdlib.Props.C19
import Pycdlib.Props.C20
import Pycdlib.Props.Tie
import Pycdlib.Props.TieCrc
import Pycdlib.Props.TieGrow
import Pycdlib.Props.TiePack
